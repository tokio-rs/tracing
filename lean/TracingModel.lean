-- root of the `TracingModel` library: every property file (so that `lake build` re-checks all of them)
import TracingModel.Props.C01
import TracingModel.Props.C01R
import TracingModel.Props.C01S
import TracingModel.Props.C02
import TracingModel.Props.C02G
import TracingModel.Props.C02A
import TracingModel.Props.C03
import TracingModel.Props.C03E
import TracingModel.Props.C03S
import TracingModel.Props.C04
import TracingModel.Props.C04G
import TracingModel.Props.C05
import TracingModel.Props.C05R
import TracingModel.Props.C05N
import TracingModel.Props.C05A
import TracingModel.Props.C06
import TracingModel.Props.C06E
import TracingModel.Props.C06A
import TracingModel.Props.C07
import TracingModel.Props.C08
import TracingModel.Props.C08S
import TracingModel.Props.C08T
import TracingModel.Props.C08E
import TracingModel.Props.C09
import TracingModel.Props.C10
import TracingModel.Props.C11
import TracingModel.Props.C11D
import TracingModel.Props.C12E
import TracingModel.Props.C12
import TracingModel.Props.C13
import TracingModel.Props.C14
import TracingModel.Props.C14J
import TracingModel.Props.C14A
import TracingModel.Props.C15
import TracingModel.Props.C16
import TracingModel.Props.C17
import TracingModel.Props.C18
import TracingModel.Props.C19
import TracingModel.Props.C20
import TracingModel.AuditLib
