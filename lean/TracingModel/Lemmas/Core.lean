import TracingModel.Spec.CoreSpec

/-! The dispatch model against C02's specification: `DRel` relates the thread-local defaults and guard list to the
specification's stacks of live scopes (`Chain`), and the global slot to "the global default, once set".  `count` and
`gzero` are there for the fast path of `current` (SCOPED_COUNT = 0 must mean no live guard); `ginit` is never 1 because
the sequential `setGlobal` is atomic (the three-step install is `Core/GlobalInit`). -/

namespace TM.Dispatch

@[simp] theorem update_same {α} {f : Nat → α} {k : Nat} {v : α} : update f k v k = v := if_pos rfl

theorem update_other {α} {f : Nat → α} {k : Nat} {v : α} {x : Nat} (h : x ≠ k) : update f k v x = f x :=
  if_neg h

end TM.Dispatch

namespace TM.CoreLemmas
open TM.Dispatch TM.Callsite TM.Spec.CoreSpec

/-- priors held by the live guards of thread `t`, newest first -/
def priorsOf (t : Tid) : List (Tid × Option Cid) → List (Option Cid)
  | [] => []
  | (o, p) :: r => if o = t then p :: priorsOf t r else priorsOf t r

/-- thread-local default `d`, the priors of the thread's guards and the thread's stack of live
scopes describe the same nesting -/
def Chain : Option Cid → List (Option Cid) → List Cid → Prop
  | d, [], st => d = none ∧ st = []
  | d, p :: ps, c :: cs => d = some c ∧ Chain p ps cs
  | _, _ :: _, [] => False

theorem priorsOf_append (t : Tid) (l r : List (Tid × Option Cid)) :
    priorsOf t (l ++ r) = priorsOf t l ++ priorsOf t r := by
  induction l with
  | nil => rfl
  | cons g l ih => simp only [List.cons_append, priorsOf, ih]; split <;> rfl

theorem takeGuard_cases (t : Tid) (gs : List (Tid × Option Cid)) :
    (takeGuard t gs = none ∧ priorsOf t gs = []) ∨
    ∃ l p r, gs = l ++ (t, p) :: r ∧ priorsOf t l = [] ∧ takeGuard t gs = some (p, l ++ r) := by
  induction gs with
  | nil => exact Or.inl ⟨rfl, rfl⟩
  | cons g gs ih =>
    obtain ⟨o, q⟩ := g
    by_cases ho : o = t
    · exact Or.inr ⟨[], q, gs, by rw [ho]; rfl, rfl, by simp only [takeGuard, ho, if_true]; rfl⟩
    · rcases ih with ⟨h1, h2⟩ | ⟨l, p, r, e, hl, h1⟩
      · exact Or.inl ⟨by simp only [takeGuard, ho, if_false, h1], by simp only [priorsOf, ho, if_false, h2]⟩
      · exact Or.inr ⟨(o, q) :: l, p, r, by rw [e]; rfl, by simp only [priorsOf, ho, if_false, hl],
          by simp only [takeGuard, ho, if_false, h1]; rfl⟩

theorem popGuard_cases (d : DState) (t : Tid) :
    (priorsOf t d.guards = [] ∧ popGuard d t = d) ∨
    ∃ l p r, d.guards = l ++ (t, p) :: r ∧ priorsOf t l = [] ∧
      popGuard d t = { d with dflt := update d.dflt t p, guards := l ++ r, scount := d.scount - 1 } := by
  rcases takeGuard_cases t d.guards with ⟨h1, h2⟩ | ⟨l, p, r, e, hl, h1⟩
  · exact Or.inl ⟨h2, by simp only [popGuard, h1]⟩
  · exact Or.inr ⟨l, p, r, e, hl, by simp only [popGuard, h1]⟩

/-- the dispatch state holds a clone of `c` (a thread's scoped default, the prior of a live guard, the global default):
`referenced` of Core/Dispatch without the list of threads -/
def Refd (d : DState) (c : Cid) : Prop :=
  (∃ t, d.dflt t = some c) ∨ (∃ g ∈ d.guards, g.2 = some c) ∨ d.gdisp = some c

theorem not_refd_iff (d : DState) (c : Cid) :
    ¬ Refd d c ↔ (∀ t, d.dflt t ≠ some c) ∧ (∀ g ∈ d.guards, g.2 ≠ some c) ∧ d.gdisp ≠ some c := by
  simp only [Refd, not_or, not_exists, not_and, ne_eq]

theorem refd_setDefault {d : DState} {t : Tid} {c x : Cid} (h : Refd (setDefault d t c) x) : Refd d x ∨ x = c := by
  rcases h with ⟨t', ht'⟩ | ⟨g, hg, hgx⟩ | hgd
  · by_cases e : t' = t
    · subst e; simp only [setDefault, update_same, Option.some.injEq] at ht'; exact Or.inr ht'.symm
    · simp only [setDefault, update_other e] at ht'; exact Or.inl (Or.inl ⟨t', ht'⟩)
  · rcases List.mem_cons.mp hg with rfl | hg
    · exact Or.inl (Or.inl ⟨t, hgx⟩)
    · exact Or.inl (Or.inr (Or.inl ⟨g, hg, hgx⟩))
  · exact Or.inl (Or.inr (Or.inr hgd))

theorem refd_popGuard {d : DState} {t : Tid} {x : Cid} (h : Refd (popGuard d t) x) : Refd d x := by
  rcases popGuard_cases d t with ⟨_, e⟩ | ⟨l, p, r, eg, _, e⟩
  · exact e ▸ h
  · rw [e] at h
    have hsub : ∀ g ∈ l ++ r, g ∈ d.guards := by
      rw [eg]; exact ((List.sublist_cons_self _ r).append_left l).subset
    rcases h with ⟨t', ht'⟩ | ⟨g, hg, hgx⟩ | hgd
    · by_cases e : t' = t
      · -- the restored default was held by the guard that went
        subst e; simp only [update_same] at ht'
        exact Or.inr (Or.inl ⟨(t', p), by rw [eg]; simp, ht'⟩)
      · simp only [update_other e] at ht'; exact Or.inl ⟨t', ht'⟩
    · exact Or.inr (Or.inl ⟨g, hsub g hg, hgx⟩)
    · exact Or.inr (Or.inr hgd)

theorem refd_setGlobal {d : DState} {c x : Cid} (h : Refd (setGlobal d c).1 x) : Refd d x ∨ x = c := by
  unfold setGlobal at h
  split at h
  · rcases h with h | h | h
    · exact Or.inl (Or.inl h)
    · exact Or.inl (Or.inr (Or.inl h))
    · exact Or.inr (Option.some.inj h).symm
  · exact Or.inl h

theorem dflt_setDefault {d : DState} {t t' : Tid} (c : Cid) (h : t' ≠ t) : (setDefault d t c).dflt t' = d.dflt t' :=
  update_other h

theorem dflt_popGuard {d : DState} {t t' : Tid} (h : t' ≠ t) : (popGuard d t).dflt t' = d.dflt t' := by
  rcases popGuard_cases d t with ⟨_, e⟩ | ⟨_, _, _, _, _, e⟩
  · rw [e]
  · rw [e]; exact update_other h

theorem dflt_setGlobal (d : DState) (c : Cid) : (setGlobal d c).1.dflt = d.dflt := by
  unfold setGlobal; split <;> rfl

theorem refd_current {d : DState} {t : Tid} {c : Cid} (h : current d t = some c) : Refd d c := by
  have hg : getGlobal d = some c → Refd d c := by
    unfold getGlobal; split
    · exact fun h => Or.inr (Or.inr h)
    · exact fun h => nomatch h
  unfold current at h
  split at h
  · exact hg h
  · split at h
    · rename_i hd; exact Or.inl ⟨t, hd.trans h⟩
    · exact hg h

structure DRel (s : CState) (sp : SState) : Prop where
  nthreads : s.nthreads = sp.nthreads
  handle : s.handle = sp.handle
  created : s.created = sp.created
  filt : s.filt = sp.filt
  chain : ∀ t, Chain (s.d.dflt t) (priorsOf t s.d.guards) (sp.stack t)
  count : s.d.scount = s.d.guards.length
  ginit : s.d.ginit = 0 ∨ s.d.ginit = 2
  glob : getGlobal s.d = sp.glob
  gzero : s.d.ginit = 0 ↔ sp.glob = none

theorem chain_cons {d p : Option Cid} {ps : List (Option Cid)} {st : List Cid} (h : Chain d (p :: ps) st) :
    ∃ c cs, st = c :: cs ∧ d = some c ∧ Chain p ps cs := by
  cases st with
  | nil => exact h.elim
  | cons c cs => exact ⟨c, cs, rfl, h⟩

/-- C02 core: the collector `get_default` resolves to is the top of the thread's live-scope
stack, else the global default -/
theorem DRel.current_eq {s : CState} {sp : SState} (h : DRel s sp) (t : Tid) :
    current s.d t = currentCollector sp t := by
  have hc := h.chain t
  simp only [current, currentCollector]
  cases hp : priorsOf t s.d.guards with
  | nil =>
    rw [hp] at hc
    obtain ⟨hd, hst⟩ := hc
    simp [hd, hst, h.glob]
  | cons p ps =>
    rw [hp] at hc
    obtain ⟨c, cs, hst, hd, _⟩ := chain_cons hc
    -- a guard is live, so the fast path is off
    have h0 : s.d.scount ≠ 0 := by
      rw [h.count]; intro e; rw [List.eq_nil_of_length_eq_zero e] at hp; cases hp
    simp [h0, hst, hd]

theorem DRel.init : DRel CState.init SState.init where
  nthreads := rfl
  handle := rfl
  created := rfl
  filt := rfl
  chain := fun _ => ⟨rfl, rfl⟩
  count := rfl
  ginit := Or.inl rfl
  glob := rfl
  gzero := iff_of_true rfl rfl

theorem drel_setDefault {s : CState} {sp : SState} (h : DRel s sp) (t : Tid) (c : Cid) :
    DRel { s with d := setDefault s.d t c } { sp with stack := update sp.stack t (c :: sp.stack t) } := by
  refine { h with chain := fun t' => ?_, count := ?_ }
  · by_cases ht : t' = t
    · subst ht
      simp only [setDefault, update_same, priorsOf, if_true, Chain]
      exact ⟨trivial, h.chain t'⟩
    · simp only [setDefault, update_other ht, priorsOf, Ne.symm ht, if_false]
      exact h.chain t'
  · simp [setDefault, h.count]

theorem drel_popGuard {s : CState} {sp : SState} (h : DRel s sp) (t : Tid) :
    DRel { s with d := popGuard s.d t } { sp with stack := update sp.stack t (sp.stack t).tail } := by
  have hct := h.chain t
  rcases popGuard_cases s.d t with ⟨hp, e⟩ | ⟨l, p, r, eg, hl, e⟩
  · rw [hp] at hct
    have hst : update sp.stack t (sp.stack t).tail = sp.stack := funext fun t' => by
      by_cases ht : t' = t
      · subst ht; simp only [update_same, hct.2, List.tail_nil]
      · exact update_other ht
    rw [e, hst]
    exact h
  · rw [e]
    refine { h with chain := fun t' => ?_, count := ?_ }
    · have hc' := h.chain t'
      rw [eg, priorsOf_append] at hc'
      by_cases ht : t' = t
      · -- `hl`: the guard that goes is the newest of `t`
        subst ht
        simp only [hl, priorsOf, if_true, List.nil_append] at hc'
        obtain ⟨c, cs, hst, _, hch⟩ := chain_cons hc'
        simp only [update_same, hst, List.tail_cons, priorsOf_append, hl, List.nil_append]
        exact hch
      · simp only [priorsOf, Ne.symm ht, if_false] at hc'
        simp only [update_other ht, priorsOf_append]
        exact hc'
    · have := h.count; rw [eg] at this
      simp only [List.length_append, List.length_cons] at this ⊢; omega

theorem drel_setGlobal {s : CState} {sp : SState} (h : DRel s sp) (c : Cid) (hg : sp.glob = none) :
    DRel { s with d := (setGlobal s.d c).1 } { sp with glob := some c } ∧ (setGlobal s.d c).2 = true := by
  have h0 := h.gzero.mpr hg
  simp only [Dispatch.setGlobal, h0, if_true, and_true]
  exact { h with ginit := Or.inr rfl, glob := by simp [getGlobal], gzero := by simp }

theorem setGlobal_again {s : CState} {sp : SState} (h : DRel s sp) (c : Cid) (hg : sp.glob ≠ none) :
    setGlobal s.d c = (s.d, false) := by
  simp only [Dispatch.setGlobal, mt h.gzero.mp hg, if_false]

theorem interestOf_fst (s : CState) (cs : Cs) :
    ∃ cache reg, (interestOf s cs).1 = { s with cache := cache, registered := reg } := by
  unfold interestOf
  split
  · exact ⟨_, _, rfl⟩
  · exact ⟨_, _, rfl⟩

theorem emit_fst (st : Nat) (lvl : Cs → Nat) (s : CState) (t : Tid) (cs : Cs) :
    ∃ cache reg, (emit st lvl s t cs).1 = { s with cache := cache, registered := reg } := by
  unfold emit
  split
  · exact interestOf_fst s cs
  · exact ⟨_, _, rfl⟩

/-- both `step`s are `if guard then … else (s, out)`, and the guards agree under `DRel` -/
theorem DRel.guarded {s : CState} {sp : SState} (h : DRel s sp) {p q : Prop} [Decidable p] [Decidable q] (hpq : p ↔ q)
    {a : CState × Out} {a' : SState × Out} {o o' : Out} (ha : p → DRel a.1 a'.1) :
    DRel (if p then a else (s, o)).1 (if q then a' else (sp, o')).1 := by
  by_cases hp : p
  · rw [if_pos hp, if_pos (hpq.mp hp)]; exact ha hp
  · rw [if_neg hp, if_neg (mt hpq.mpr hp)]; exact h

theorem step_drel {s : CState} {sp : SState} (h : DRel s sp) (st : Nat) (lvl : Cs → Nat) (op : Op) :
    DRel (TM.Callsite.step st lvl s op).1 (TM.Spec.CoreSpec.step st lvl sp op).1 := by
  cases op with
  | threadStart => exact { h with nthreads := congrArg (· + 1) h.nthreads }
  | newCollector c f =>
    simp only [TM.Callsite.step, TM.Spec.CoreSpec.step, newCollector, ← h.created]
    split
    · exact h
    · exact { h with
        handle := congrArg (update · c true) h.handle
        created := rfl
        filt := congrArg (update · c f) h.filt }
  | dropHandle c => exact { h with handle := congrArg (update · c false) h.handle }
  | setDefault t c => exact h.guarded (by rw [h.nthreads, h.handle]) fun _ => drel_setDefault h t c
  | popDefault t => exact h.guarded (by rw [h.nthreads]) fun _ => drel_popGuard h t
  | setGlobal c =>
    refine h.guarded (by rw [h.handle]) fun _ => ?_
    cases hg : sp.glob with
    | none => exact (drel_setGlobal h c hg).1
    | some g => rw [setGlobal_again h c (by simp [hg])]; exact h
  | emit t cs =>
    refine h.guarded (by rw [h.nthreads]) fun _ => ?_
    obtain ⟨_, _, e⟩ := emit_fst st lvl s t cs
    -- `DRel` reads neither `cache` nor `registered`
    rw [e]; exact { h with }
  | rebuild => exact { h with }
  | flip c cs =>
    refine { h with filt := ?_ }
    simp only [TM.Callsite.step, TM.Spec.CoreSpec.step, Callsite.flip, h.filt]

theorem run_drel {s : CState} {sp : SState} (h : DRel s sp) (st : Nat) (lvl : Cs → Nat) (ops : List Op) :
    DRel (TM.Callsite.run st lvl s ops).1 (TM.Spec.CoreSpec.run st lvl sp ops).1 := by
  induction ops generalizing s sp with
  | nil => exact h
  | cons op ops ih => exact ih (step_drel h st lvl op)

end TM.CoreLemmas
