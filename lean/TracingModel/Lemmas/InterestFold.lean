import TracingModel.Core.RegRace
import TracingModel.Lemmas.Lists

/-! The two folds of `rebuild_interest`, as both registry models (`TM.Callsite`, sequential;
`TM.RegRace`, interleaved) compute them: `Interest::and` over the collectors' answers, and the
maximum of their level hints. -/

namespace TM.CoreLemmas
open TM.Callsite TM.RegRace

theorem and_eq_iff {v : Interest} (hv : v ≠ .sometimes) (a b : Interest) : a.and b = v ↔ a = v ∧ b = v := by
  unfold Interest.and
  split
  · rename_i h; subst h; exact ⟨fun e => ⟨e, e⟩, And.left⟩
  · rename_i h; exact ⟨fun e => absurd e.symm hv, fun ⟨ha, hb⟩ => absurd (ha.trans hb.symm) h⟩

theorem foldl_and_eq {α} {v : Interest} (hv : v ≠ .sometimes) (f : α → Interest) (l : List α) (i : Interest)
    (h : l.foldl (fun a c => a.and (f c)) i = v) : i = v ∧ ∀ c ∈ l, f c = v := by
  induction l generalizing i with
  | nil => exact ⟨h, by simp⟩
  | cons x xs ih =>
    obtain ⟨h1, h2⟩ := ih _ h
    obtain ⟨h3, h4⟩ := (and_eq_iff hv _ _).mp h1
    exact ⟨h3, List.forall_mem_cons.mpr ⟨h4, h2⟩⟩

theorem foldl_and_congr {f g : Cid → Interest} {l : List Cid} (h : ∀ c ∈ l, f c = g c) (i : Interest) :
    l.foldl (fun a c => a.and (f c)) i = l.foldl (fun a c => a.and (g c)) i := by
  induction l generalizing i with
  | nil => rfl
  | cons x xs ih =>
    obtain ⟨hx, hxs⟩ := List.forall_mem_cons.mp h
    simp only [List.foldl_cons, hx, ih hxs]

theorem fold_eq_imp {v : Interest} (hv : v ≠ .sometimes) {want : Cid → Cs → Interest} {cs : Cs} {B : List Cid}
    {c : Cid} (hc : c ∈ B) (h : fold want cs B = v) : want c cs = v := by
  cases B with
  | nil => cases hc
  | cons b rest =>
    obtain ⟨h1, h2⟩ := foldl_and_eq hv (want · cs) rest _ h
    rcases List.mem_cons.mp hc with rfl | hm
    · exact h1
    · exact h2 c hm

theorem fold_congr {w w' : Cid → Cs → Interest} {cs : Cs} {B : List Cid} (h : ∀ c ∈ B, w' c cs = w c cs) :
    fold w' cs B = fold w cs B := by
  cases B with
  | nil => rfl
  | cons b rest =>
    obtain ⟨hb, hr⟩ := List.forall_mem_cons.mp h
    simp only [fold, hb, foldl_and_congr hr]

theorem foldInterest_eq (s : CState) (cs : Cs) (B : List Cid) :
    foldInterest s cs B = fold (fun c cs => (s.filt c).stat cs) cs B := by
  cases B <;> rfl

theorem le_foldl_setMax (hf : Cid → Nat) (l : List Cid) (m0 : Nat) :
    m0 ≤ l.foldl (fun m c => if hf c > m then hf c else m) m0 ∧
    ∀ c ∈ l, hf c ≤ l.foldl (fun m c => if hf c > m then hf c else m) m0 :=
  TM.Lists.le_foldl (fun m c => by split <;> omega) l m0

end TM.CoreLemmas
