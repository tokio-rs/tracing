import TracingModel.Lemmas.Core
import TracingModel.Lemmas.InterestFold

namespace TM.CoreLemmas
open TM.Dispatch TM.Callsite

def Alive (s : CState) (c : Cid) : Prop :=
  c = 0 ∨ s.handle c = true ∨ (∃ t, t < s.nthreads ∧ s.d.dflt t = some c) ∨
  (∃ g ∈ s.d.guards, g.2 = some c) ∨ s.d.gdisp = some c

theorem alive_iff (s : CState) (c : Cid) : alive s c = true ↔ Alive s c := by
  simp only [alive, referenced, Alive, Bool.or_eq_true, beq_iff_eq, List.any_eq_true, List.mem_range, or_assoc]

theorem Alive.refd {s : CState} {c : Cid} (h : Alive s c) : c = 0 ∨ s.handle c = true ∨ Refd s.d c :=
  h.imp_right (Or.imp_right (Or.imp_left fun ⟨t, _, ht⟩ => ⟨t, ht⟩))

theorem alive_of_refd {s : CState} {c : Cid} (h5 : ∀ t, s.nthreads ≤ t → s.d.dflt t = none) (h : Refd s.d c) :
    Alive s c := by
  refine Or.inr (Or.inr (h.imp_left fun ⟨t, ht⟩ => ⟨t, Nat.lt_of_not_le fun hn => ?_, ht⟩))
  rw [h5 t hn] at ht; cases ht

/-- a self-consistent filter: the hint is a true upper bound of every callsite it does not
statically reject (its dynamic answers may flip at any time) -/
def SCf (lvl : Cs → Nat) (f : Filt) : Prop := ∀ cs, f.stat cs ≠ .never → lvl cs ≤ hintRank f

/-- The invariant of the sequential registry model.
`a1` every live collector other than `NoCollector` is a registrar; `a2` a handle the program holds is of a created
collector, never of `NoCollector`; `a3` the dispatch state never refers to `NoCollector` (collector 0); `a5` threads
not yet started have no default; `a6` a collector not yet created answers `never` everywhere;
`b` a cached interest belongs to a registered callsite and is the `Interest::and` fold over a basis that contains every
live collector; `c` MAX_LEVEL bounds every live collector's hint; `d` every filter is self-consistent (`SCf`). -/
structure Inv (lvl : Cs → Nat) (s : CState) : Prop where
  a1 : ∀ c, c ≠ 0 → Alive s c → c ∈ s.dispatchers
  a2 : ∀ c, s.handle c = true → c ≠ 0 ∧ s.created c = true
  a3 : (∀ t, s.d.dflt t ≠ some 0) ∧ (∀ g ∈ s.d.guards, g.2 ≠ some 0) ∧ s.d.gdisp ≠ some 0
  a5 : ∀ t, s.nthreads ≤ t → s.d.dflt t = none
  a6 : ∀ c, s.created c = false → (s.filt c).stat = fun _ => .never
  b : ∀ cs i, s.cache cs = some i → cs ∈ s.registered ∧
        ∃ B, i = foldInterest s cs B ∧ ∀ c, c ≠ 0 → Alive s c → c ∈ B
  c : ∀ c, c ≠ 0 → Alive s c → hintRank (s.filt c) ≤ s.maxLevel
  d : ∀ c, SCf lvl (s.filt c)

theorem Inv.init (lvl : Cs → Nat) : Inv lvl CState.init := by
  have hdead : ∀ c, c ≠ 0 → ¬ Alive CState.init c := by
    intro c hc h
    rcases h.refd with h | h | ⟨t, h⟩ | ⟨g, hg, _⟩ | h
    · exact hc h
    · cases h
    · cases h
    · cases hg
    · cases h
  exact {
    a1 := fun c hc h => (hdead c hc h).elim
    a2 := fun c h => by cases h
    a3 := ⟨fun _ h => (nomatch h), fun _ h => (nomatch h), fun h => (nomatch h)⟩
    a5 := fun _ _ => rfl
    a6 := fun _ _ => rfl
    b := fun cs i h => by cases h
    c := fun c hc h => (hdead c hc h).elim
    d := fun c cs h => (h rfl).elim }

/-- the filters created by a history are self-consistent -/
def OpSC (lvl : Cs → Nat) : Op → Prop
  | .newCollector _ f => SCf lvl f
  | _ => True

/-- the part of the invariant that does not speak about the cached interests and MAX_LEVEL: `rebuild_interest`
re-establishes those two from it alone (`rebuild_inv`), which is how `Dispatch::new` is handled -/
structure WInv (lvl : Cs → Nat) (s : CState) : Prop where
  a1 : ∀ c, c ≠ 0 → Alive s c → c ∈ s.dispatchers
  a2 : ∀ c, s.handle c = true → c ≠ 0 ∧ s.created c = true
  a3 : (∀ t, s.d.dflt t ≠ some 0) ∧ (∀ g ∈ s.d.guards, g.2 ≠ some 0) ∧ s.d.gdisp ≠ some 0
  a5 : ∀ t, s.nthreads ≤ t → s.d.dflt t = none
  a6 : ∀ c, s.created c = false → (s.filt c).stat = fun _ => .never
  bw : ∀ cs i, s.cache cs = some i → cs ∈ s.registered
  d : ∀ c, SCf lvl (s.filt c)

theorem Inv.weak {lvl : Cs → Nat} {s : CState} (h : Inv lvl s) : WInv lvl s :=
  { h with bw := fun cs i hi => (h.b cs i hi).1 }

theorem rebuild_inv {lvl : Cs → Nat} {s : CState} (h : WInv lvl s) : Inv lvl (rebuildInterest s) :=
  have hlive : ∀ c, c ≠ 0 → Alive s c → c ∈ s.dispatchers.filter (alive s) := fun c hc ha =>
    List.mem_filter.mpr ⟨h.a1 c hc ha, (alive_iff s c).mpr ha⟩
  { h with
    a1 := hlive
    b := by
      intro cs i hi
      simp only [rebuildInterest] at hi
      split at hi
      · rename_i hr
        exact ⟨hr, _, (Option.some.inj hi).symm, hlive⟩
      · rename_i hr
        exact absurd (h.bw cs i hi) hr
    c := fun c hc ha => (le_foldl_setMax (fun c => hintRank (s.filt c)) _ 0).2 c (hlive c hc ha) }

theorem Inv.current_live {lvl : Cs → Nat} {s : CState} (h : Inv lvl s) {t : Tid} {c : Cid}
    (hc : current s.d t = some c) : Alive s c ∧ c ≠ 0 :=
  have hr := refd_current hc
  ⟨alive_of_refd h.a5 hr, fun e => (not_refd_iff s.d 0).mpr h.a3 (e ▸ hr)⟩

/-- for the steps that touch only dispatch state, thread count and handles: no collector becomes live, since whatever the
new dispatch state refers to, the old one referred to or the program holds a handle of (`href`) -/
theorem Inv.of_mono {lvl : Cs → Nat} {s : CState} (h : Inv lvl s) {d' : DState} {n' : Nat} {handle' : Cid → Bool}
    (hh : ∀ c, handle' c = true → s.handle c = true)
    (href : ∀ c, Refd d' c → Refd s.d c ∨ s.handle c = true)
    (h5 : ∀ t, n' ≤ t → d'.dflt t = none) :
    Inv lvl { s with d := d', nthreads := n', handle := handle' } :=
  have hmono : ∀ c, Alive { s with d := d', nthreads := n', handle := handle' } c → Alive s c := by
    intro c ha
    rcases ha.refd with h0 | ha | ha
    · exact Or.inl h0
    · exact Or.inr (Or.inl (hh c ha))
    · exact (href c ha).elim (alive_of_refd h.a5) (fun ha => Or.inr (Or.inl ha))
  { h with
    a1 := fun c hc ha => h.a1 c hc (hmono c ha)
    a2 := fun c hc => h.a2 c (hh c hc)
    a3 := (not_refd_iff d' 0).mp fun hr =>
      (href 0 hr).elim ((not_refd_iff s.d 0).mpr h.a3) (fun h0 => (h.a2 0 h0).1 rfl)
    a5 := h5
    b := fun cs i hi =>
      let ⟨hr, B, hB, hm⟩ := h.b cs i hi
      ⟨hr, B, hB, fun c hc ha => hm c hc (hmono c ha)⟩
    c := fun c hc ha => h.c c hc (hmono c ha) }

/-- dynamic answers may change freely: the invariant reads only the static answers and the hints -/
theorem Inv.congr_filt {lvl : Cs → Nat} {s : CState} (h : Inv lvl s) {filt' : Cid → Filt}
    (hfilt : ∀ c, (filt' c).stat = (s.filt c).stat ∧ (filt' c).hint = (s.filt c).hint) :
    Inv lvl { s with filt := filt' } :=
  have hrank : ∀ c, hintRank (filt' c) = hintRank (s.filt c) := fun c => by simp only [hintRank, (hfilt c).2]
  { h with
    a6 := fun c hc => (hfilt c).1.trans (h.a6 c hc)
    b := by
      intro cs i hi
      obtain ⟨hr, B, hB, hm⟩ := h.b cs i hi
      refine ⟨hr, B, ?_, hm⟩
      rw [hB, foldInterest_eq, foldInterest_eq]
      exact (fold_congr fun c _ => congrFun (hfilt c).1 cs).symm
    c := fun c hc ha => hrank c ▸ h.c c hc ha
    d := fun c cs hcs => (hrank c).symm ▸ h.d c cs ((hfilt c).1 ▸ hcs) }

theorem interestOf_inv {lvl : Cs → Nat} {s : CState} (h : Inv lvl s) (cs : Cs) :
    Inv lvl (interestOf s cs).1 := by
  unfold interestOf
  split
  · exact h
  · exact { h with
      b := by
        intro cs' i hi
        by_cases e : cs' = cs
        · subst e
          simp only [update_same, Option.some.injEq] at hi
          exact ⟨List.mem_cons_self .., _, hi.symm, fun c hc ha =>
            List.mem_filter.mpr ⟨h.a1 c hc ha, (alive_iff s c).mpr ha⟩⟩
        · simp only [update_other e] at hi
          obtain ⟨hr, hB⟩ := h.b cs' i hi
          exact ⟨List.mem_cons_of_mem _ hr, hB⟩ }

theorem emit_inv {lvl : Cs → Nat} {s : CState} (h : Inv lvl s) (st : Nat) (t : Tid) (cs : Cs) :
    Inv lvl (emit st lvl s t cs).1 := by
  unfold emit
  split
  · exact interestOf_inv h cs
  · exact h

/-- `step` is `if guard then … else (s, out)` -/
theorem Inv.guarded {lvl : Cs → Nat} {s : CState} (h : Inv lvl s) {p : Prop} [Decidable p] {a : CState × Out} {o : Out}
    (ha : p → Inv lvl a.1) : Inv lvl (if p then a else (s, o)).1 := by
  split
  · exact ha ‹p›
  · exact h

theorem step_inv {lvl : Cs → Nat} {s : CState} (h : Inv lvl s) (st : Nat) {op : Op} (hop : OpSC lvl op) :
    Inv lvl (TM.Callsite.step st lvl s op).1 := by
  cases op with
  | threadStart =>
    exact h.of_mono (fun _ => id) (fun _ => Or.inl) (fun t ht => h.a5 t (Nat.le_of_succ_le ht))
  | newCollector c f =>
    simp only [TM.Callsite.step, newCollector]
    split
    · exact h
    · rename_i hc
      have hc0 : c ≠ 0 := fun e => hc (Or.inl e)
      refine rebuild_inv { h.weak with a1 := ?_, a2 := ?_, a6 := ?_, d := ?_ }
      · intro c' hc' ha
        by_cases e : c' = c
        · exact List.mem_append_right _ (e ▸ List.mem_singleton_self c)
        · refine List.mem_append_left _ (h.a1 c' hc' ?_)
          simpa only [Alive, update_other e] using ha
      · intro c' hh
        by_cases e : c' = c
        · subst e; exact ⟨hc0, update_same⟩
        · simp only [update_other e] at hh ⊢; exact h.a2 c' hh
      · intro c' hh
        by_cases e : c' = c
        · subst e; simp only [update_same] at hh; cases hh
        · simp only [update_other e] at hh ⊢; exact h.a6 c' hh
      · intro c'
        by_cases e : c' = c
        · subst e; simp only [update_same]; exact hop
        · simp only [update_other e]; exact h.d c'
  | dropHandle c =>
    refine h.of_mono (fun c' hc' => ?_) (fun _ => Or.inl) h.a5
    by_cases e : c' = c
    · subst e; simp only [update_same] at hc'; cases hc'
    · rwa [update_other e] at hc'
  | setDefault t c =>
    refine h.guarded fun hc => h.of_mono (fun _ => id)
      (fun x hx => (refd_setDefault hx).elim Or.inl fun e => Or.inr (e ▸ hc.2)) fun t' ht' => ?_
    rw [dflt_setDefault c (Nat.ne_of_gt (Nat.lt_of_lt_of_le hc.1 ht'))]; exact h.a5 t' ht'
  | popDefault t =>
    refine h.guarded fun hc => h.of_mono (fun _ => id) (fun x hx => Or.inl (refd_popGuard hx)) fun t' ht' => ?_
    rw [dflt_popGuard (Nat.ne_of_gt (Nat.lt_of_lt_of_le hc ht'))]; exact h.a5 t' ht'
  | setGlobal c =>
    exact h.guarded fun hc => h.of_mono (fun _ => id)
      (fun x hx => (refd_setGlobal hx).elim Or.inl fun e => Or.inr (e ▸ hc)) (dflt_setGlobal s.d c ▸ h.a5)
  | emit t cs => exact h.guarded fun _ => emit_inv h st t cs
  | rebuild => exact rebuild_inv h.weak
  | flip c cs =>
    refine h.congr_filt fun c' => ?_
    by_cases e : c' = c
    · subst e; simp only [update_same, and_self]
    · simp only [update_other e, and_self]

theorem run_inv {lvl : Cs → Nat} {s : CState} (h : Inv lvl s) (st : Nat) {ops : List Op}
    (hsc : ∀ op ∈ ops, OpSC lvl op) : Inv lvl (TM.Callsite.run st lvl s ops).1 := by
  induction ops generalizing s with
  | nil => exact h
  | cons op ops ih =>
    obtain ⟨hop, hops⟩ := List.forall_mem_cons.mp hsc
    exact ih (step_inv h st hop) hops

end TM.CoreLemmas
