/- ONE invariant (`Inv`, its arithmetic `Good`) of the shared counter of Core/AtomicCount under atomic updates, for increments,
releases and both mixed; the exactness theorems are its projections -/
import TracingModel.Core.AtomicCount
import TracingModel.Lemmas.Lists

namespace TM.AtomicCount

@[simp] theorem upd_same (f : Nat → PC) (t : Nat) (v : PC) : upd f t v t = v := by simp [upd]
theorem upd_other {f : Nat → PC} {t x : Nat} {v : PC} (h : x ≠ t) : upd f t v x = f x := by simp [upd, h]

@[simp] theorem isDone_todo : isDone .todo = false := rfl
@[simp] theorem isDone_done (b : Bool) : isDone (.done b) = true := rfl
@[simp] theorem isCloser_todo : isCloser .todo = false := rfl
@[simp] theorem isCloser_done (b : Bool) : isCloser (.done b) = b := by cases b <;> rfl

def incs (kind : Nat → Kind) (ths : List Nat) : List Nat := ths.filter fun t => kind t == .inc
def decs (kind : Nat → Kind) (ths : List Nat) : List Nat := ths.filter fun t => kind t == .dec

@[simp] theorem mem_incs {kind : Nat → Kind} {ths : List Nat} {t : Nat} : t ∈ incs kind ths ↔ t ∈ ths ∧ kind t = .inc := by
  simp [incs]
@[simp] theorem mem_decs {kind : Nat → Kind} {ths : List Nat} {t : Nat} : t ∈ decs kind ths ↔ t ∈ ths ∧ kind t = .dec := by
  simp [decs]

theorem step_inc {kind : Nat → Kind} {s : S} {t : Nat} (d : Bool) (hp : s.pc t = .todo) (hk : kind t = .inc) :
    step true d kind s t = { c := s.c + 1, pc := upd s.pc t (.done false) } := by simp [step, hp, hk]

theorem step_dec {kind : Nat → Kind} {s : S} {t : Nat} (r : Bool) (hp : s.pc t = .todo) (hk : kind t = .dec) :
    step r true kind s t = { c := s.c - 1, pc := upd s.pc t (.done (s.c == 1)) } := by simp [step, hp, hk]

theorem step_done (r d : Bool) (kind : Nat → Kind) {s : S} {t : Nat} {b : Bool} (hp : s.pc t = .done b) :
    step r d kind s t = s := by cases hk : kind t <;> simp [step, hp, hk]

theorem count_upd (p : PC → Bool) (hp : p .todo = false) {l : List Nat} (hnd : l.Nodup) {f : Nat → PC} {t : Nat} (ht : f t = .todo)
    (v : PC) :
    (l.filter fun x => p (upd f t v x)).length = (l.filter fun x => p (f x)).length + if t ∈ l ∧ p v = true then 1 else 0 := by
  have := Threads.length_filter_upd hnd (q := fun x => p (f x)) (q' := fun x => p (upd f t v x)) (t := t)
    (fun x hx => by rw [upd_other hx]) (by rw [ht, hp])
  rwa [upd_same] at this

/-- `c0` things live at the start; `c` the counter, `fi` / `fd` the threads that have added one / taken one of those away,
`cl` the threads that concluded "I took the last one away"; `late` (nobody has concluded while a taker has yet to run) is what
gives `cl = 0` in `Good.dec` -/
structure Good (c0 c fd fi cl : Nat) : Prop where
  count : c + fd = c0 + fi
  atMostOne : cl ≤ 1
  late : cl = 1 → fd = c0
  atZero : 1 ≤ c0 → c = 0 → cl = 1

theorem Good.inc {c0 c fd fi cl : Nat} (h : Good c0 c fd fi cl) : Good c0 (c + 1) fd (fi + 1) cl := by
  obtain ⟨h1, h2, h3, _⟩ := h
  exact ⟨by omega, h2, h3, by omega⟩

/-- `hlt`: a taker has yet to run, so the counter is positive and `c - 1` exact -/
theorem Good.dec {c0 c fd fi cl : Nat} (h : Good c0 c fd fi cl) (hlt : fd < c0) :
    Good c0 (c - 1) (fd + 1) fi (cl + if c = 1 then 1 else 0) := by
  obtain ⟨h1, h2, h3, _⟩ := h
  have hcl : cl = 0 := by omega
  subst hcl
  by_cases e : c = 1
  · subst e; exact ⟨by omega, Nat.le_refl 1, fun _ => by omega, fun _ _ => rfl⟩
  · rw [if_neg e]; exact ⟨by omega, Nat.zero_le 1, fun h => absurd h (by decide), fun _ h0 => by omega⟩

structure Inv (c0 : Nat) (kind : Nat → Kind) (ths : List Nat) (s : S) : Prop where
  good : Good c0 s.c (finished s (decs kind ths)) (finished s (incs kind ths)) (closers s ths)
  noMidway : ∀ t, s.pc t = .todo ∨ ∃ b, s.pc t = .done b

theorem Inv.init (c0 : Nat) (kind : Nat → Kind) (ths : List Nat) : Inv c0 kind ths (start c0) := by
  have zf : ∀ l, finished (start c0) l = 0 := fun l => by simp [finished, start]
  have zc : closers (start c0) ths = 0 := by simp [closers, start]
  refine ⟨?_, fun _ => Or.inl rfl⟩
  rw [zf, zf, zc]
  exact ⟨rfl, by omega, by omega, fun h1 h0 => absurd h0 (by simp only [start]; omega)⟩

theorem step_inv {c0 : Nat} {kind : Nat → Kind} {ths : List Nat} (hnd : ths.Nodup) (hroom : (decs kind ths).length ≤ c0)
    {s : S} (h : Inv c0 kind ths s) {t : Nat} (ht : t ∈ ths) : Inv c0 kind ths (step true true kind s t) := by
  obtain hp | ⟨b, hp⟩ := h.noMidway t
  · have noMidway' : ∀ b x, upd s.pc t (.done b) x = .todo ∨ ∃ b', upd s.pc t (.done b) x = .done b' := by
      intro b x
      by_cases e : x = t
      · rw [e, upd_same]; exact Or.inr ⟨b, rfl⟩
      · rw [upd_other e]; exact h.noMidway x
    have hi := count_upd isDone rfl (l := incs kind ths) (hnd.filter _) hp
    have hd := count_upd isDone rfl (l := decs kind ths) (hnd.filter _) hp
    have hc := count_upd isCloser rfl hnd hp
    -- with `t` done, the counts are the old ones plus `t`'s own: `Inv` of the new state is `Good` of those
    have key : ∀ c b, Good c0 c (finished s (decs kind ths) + if kind t = .dec then 1 else 0)
        (finished s (incs kind ths) + if kind t = .inc then 1 else 0) (closers s ths + if b = true then 1 else 0) →
        Inv c0 kind ths { c := c, pc := upd s.pc t (.done b) } := by
      intro c b hg
      refine ⟨?_, noMidway' b⟩
      simpa only [finished, closers, hi, hd, hc, mem_incs, mem_decs, ht, isDone_done, isCloser_done, true_and, and_true] using hg
    cases hk : kind t with
    | inc =>
      rw [step_inc _ hp hk]
      refine key _ _ ?_
      simpa only [hk, reduceCtorEq, Bool.false_eq_true, if_true, if_false, Nat.add_zero] using h.good.inc
    | dec =>
      have hlt : finished s (decs kind ths) < (decs kind ths).length :=
        List.length_filter_lt_length_iff_exists.mpr ⟨t, mem_decs.mpr ⟨ht, hk⟩, by simp [hp]⟩
      rw [step_dec _ hp hk]
      refine key _ _ ?_
      simpa only [hk, reduceCtorEq, beq_iff_eq, if_true, if_false, Nat.add_zero] using h.good.dec (Nat.lt_of_lt_of_le hlt hroom)
  · rw [step_done _ _ _ hp]; exact h

theorem run_inv {c0 : Nat} {kind : Nat → Kind} {ths : List Nat} (hnd : ths.Nodup) (hroom : (decs kind ths).length ≤ c0)
    {s : S} (h : Inv c0 kind ths s) {sched : List Nat} (hs : ∀ t ∈ sched, t ∈ ths) :
    Inv c0 kind ths (run true true kind s sched) :=
  List.foldlRecOn sched _ h fun _ h t ht => step_inv hnd hroom h (hs t ht)

/-- **the counter is exact** — any threads, each performing one atomic increment (something becomes live) or one atomic
decrement (something that was live at the start goes away), under every interleaving:
counter = initial + increments finished − decrements finished -/
theorem mixed_exact (c0 : Nat) (ths : List Nat) (hnd : ths.Nodup) (kind : Nat → Kind) (hroom : (decs kind ths).length ≤ c0)
    (sched : List Nat) (hs : ∀ t ∈ sched, t ∈ ths) :
    let s := run true true kind (start c0) sched
    s.c + finished s (decs kind ths) = c0 + finished s (incs kind ths) :=
  (run_inv hnd hroom (Inv.init c0 kind ths) hs).good.count

theorem decs_of_all_inc {kind : Nat → Kind} (hk : ∀ t, kind t = .inc) (ths : List Nat) : decs kind ths = [] ∧ incs kind ths = ths := by
  simp [decs, incs, hk]

theorem decs_of_all_dec {kind : Nat → Kind} (hk : ∀ t, kind t = .dec) (ths : List Nat) : decs kind ths = ths ∧ incs kind ths = [] := by
  simp [decs, incs, hk]

/-- **no lost increment** — any number of threads each bumping the counter once with an atomic fetch_add, under every
interleaving: the counter is the initial value plus the number of threads that have finished -/
theorem increments_exact (c0 : Nat) (ths : List Nat) (hnd : ths.Nodup) (kind : Nat → Kind) (hk : ∀ t, kind t = .inc)
    (sched : List Nat) (hs : ∀ t ∈ sched, t ∈ ths) :
    (run true true kind (start c0) sched).c = c0 + finished (run true true kind (start c0) sched) ths := by
  obtain ⟨ed, ei⟩ := decs_of_all_inc hk ths
  have := mixed_exact c0 ths hnd kind (by simp [ed]) sched hs
  rw [ed, ei] at this
  exact this

/-- **exactly one closer** — `n ≥ 1` threads hold the `n` references of a span and each releases its own with a fetch_sub whose
returned value decides ("I was the last iff it returned 1"): under every interleaving at most one of them concludes that it was
the last, and once the count has reached zero exactly one has -/
theorem one_closer (ths : List Nat) (hnd : ths.Nodup) (hne : ths ≠ []) (kind : Nat → Kind) (hk : ∀ t, kind t = .dec)
    (sched : List Nat) (hs : ∀ t ∈ sched, t ∈ ths) :
    let s := run true true kind (start ths.length) sched
    closers s ths ≤ 1 ∧ (s.c = 0 → closers s ths = 1) ∧ s.c + finished s ths = ths.length := by
  obtain ⟨ed, ei⟩ := decs_of_all_dec hk ths
  have h := run_inv hnd (by simp [ed]) (Inv.init ths.length kind ths) hs
  have hc := h.good.count
  rw [ed, ei] at hc
  exact ⟨h.good.atMostOne, h.good.atZero (List.length_pos_iff.mpr hne), hc⟩

/-- two non-atomic increments (load, load, store, store): one is lost -/
theorem lost_increment_witness :
    (run false true (fun _ => .inc) (start 0) [0, 1, 0, 1]).c = 1 := by decide

/-- two releases whose "am I the last?" is a separate load (dec, dec, load, load): both conclude that they are -/
theorem two_closers_witness :
    closers (run true false (fun _ => .dec) (start 2) [0, 1, 0, 1]) [0, 1] = 2 := by decide

end TM.AtomicCount
