/- `civil` (Core/Rolling: day number → year, month, day) is injective.  A day of the 400-year era is written as century,
4-year block, year and day of the year (`era_split`); on that form the closed formula for the year of the era can be
evaluated (`yoeOf_eq`), which bounds the day of the year; month and day are then read back from the date. -/
import TracingModel.Core.Rolling
namespace TM.Civil
open TM.Rolling

/-- the year-of-era step of `civil` -/
def yoeOf (doe : Nat) : Nat := (doe - doe / 1460 + doe / 36524 - doe / 146096) / 365

/-- the tail of `civil`; `doy` counts from March 1st -/
def ofYearDay (y doy : Nat) : Nat × Nat × Nat :=
  let mp := (5 * doy + 2) / 153
  let d := doy - (153 * mp + 2) / 5 + 1
  let m := if mp < 10 then mp + 3 else mp - 9
  (y + (if m ≤ 2 then 1 else 0), m, d)

theorem month_inv (mp : Nat) (h : mp ≤ 11) : ((if mp < 10 then mp + 3 else mp - 9) + 9) % 12 = mp := by
  split <;> omega

theorem month_bounds (doy : Nat) (h : doy ≤ 365) :
    (5 * doy + 2) / 153 ≤ 11 ∧ (153 * ((5 * doy + 2) / 153) + 2) / 5 ≤ doy := by
  omega

theorem ofYearDay_injective {y doy y' doy' : Nat} (hd : doy ≤ 365) (hd' : doy' ≤ 365)
    (h : ofYearDay y doy = ofYearDay y' doy') : y = y' ∧ doy = doy' := by
  have b := month_bounds doy hd
  have b' := month_bounds doy' hd'
  simp only [ofYearDay, Prod.mk.injEq] at h
  generalize (5 * doy + 2) / 153 = mp at *
  generalize (5 * doy' + 2) / 153 = mp' at *
  obtain ⟨e1, e2, e3⟩ := h
  obtain rfl : mp = mp' := by rw [← month_inv mp b.1, e2, month_inv mp' b'.1]
  exact ⟨Nat.add_right_cancel e1, by omega⟩

/-- `k` is the largest quotient here; in `TM.DateTime.clampDiv_spec` it is the clamp value of the source, one more -/
theorem clamp_split (d k n : Nat) (h : n ≤ d * (k + 1)) : ∃ q r, q ≤ k ∧ r ≤ d ∧ (r = d → q = k) ∧ n = d * q + r := by
  by_cases e : n = d * (k + 1)
  · exact ⟨k, d, Nat.le_refl _, Nat.le_refl _, fun _ => rfl, e⟩
  · have hlt := Nat.lt_of_le_of_ne h e
    have hr := Nat.mod_lt n (Nat.pos_of_lt_mul_right hlt)
    exact ⟨n / d, n % d, Nat.le_of_lt_succ (Nat.div_lt_of_lt_mul hlt), Nat.le_of_lt hr, fun x => absurd x (Nat.ne_of_lt hr),
      (Nat.div_add_mod n d).symm⟩

/-- a 366th day (`doy = 365`) ends the last year of a block, except in the last block of a century other than the last -/
theorem era_split (doe : Nat) (h : doe < 146097) :
    ∃ c q k doy, c ≤ 3 ∧ q ≤ 24 ∧ k ≤ 3 ∧ doy ≤ 365 ∧ (doy = 365 → k = 3 ∧ (q = 24 → c = 3)) ∧
      doe = 36524 * c + 1461 * q + 365 * k + doy := by
  obtain ⟨c, r, hc, hr, hcl, e⟩ := clamp_split 36524 3 doe (by omega)
  obtain ⟨q, s, hq, hs, hql, e'⟩ := clamp_split 1461 24 r (by omega)
  obtain ⟨k, doy, hk, hd, hkl, e''⟩ := clamp_split 365 3 s (by omega)
  exact ⟨c, q, k, doy, hc, hq, hk, hd, by omega, by omega⟩

/-- the century terms of the closed form cancel to `c`: both count one more on the last day of the era only -/
theorem century_terms (c r doe : Nat) (hc : c ≤ 3) (hr : r ≤ 36524) (hl : r = 36524 → c = 3) (e : doe = 36524 * c + r) :
    doe / 36524 = c + doe / 146096 := by
  omega

/-- without the century terms: `doe / 1460` is the number `25 c + q` of whole 4-year blocks, or one more late in a year
(then `doy ≥ 269`, and always when `doy = 365`), so that `doy` less that excess is a remainder modulo 365 -/
theorem blocks_term (c q k doy doe : Nat) (hc : c ≤ 3) (hq : q ≤ 24) (hk : k ≤ 3) (hd : doy ≤ 365) (hl : doy = 365 → k = 3)
    (e : doe = 36524 * c + 1461 * q + 365 * k + doy) : (doe - doe / 1460 + c) / 365 = 100 * c + 4 * q + k := by
  omega

theorem yoeOf_eq (c q k doy : Nat) (hc : c ≤ 3) (hq : q ≤ 24) (hk : k ≤ 3) (hd : doy ≤ 365)
    (hl : doy = 365 → k = 3 ∧ (q = 24 → c = 3)) :
    yoeOf (36524 * c + 1461 * q + 365 * k + doy) = 100 * c + 4 * q + k := by
  unfold yoeOf
  rw [century_terms c (1461 * q + 365 * k + doy) _ hc (by omega) (by omega) (by simp only [Nat.add_assoc]),
    ← Nat.add_assoc, Nat.add_sub_cancel]
  exact blocks_term c q k doy _ hc hq hk hd (fun h => (hl h).1) rfl

theorem yoe_bounds (doe : Nat) (h : doe < 146097) :
    yoeOf doe ≤ 399 ∧ 365 * yoeOf doe + yoeOf doe / 4 - yoeOf doe / 100 ≤ doe ∧
    doe - (365 * yoeOf doe + yoeOf doe / 4 - yoeOf doe / 100) ≤ 365 := by
  obtain ⟨c, q, k, doy, hc, hq, hk, hd, hl, rfl⟩ := era_split doe h
  rw [yoeOf_eq c q k doy hc hq hk hd hl, show (100 * c + 4 * q + k) / 4 = 25 * c + q by omega,
    show (100 * c + 4 * q + k) / 100 = c by omega]
  omega

theorem civil_split (z : Nat) : ∃ era yoe doy, yoe ≤ 399 ∧ doy ≤ 365 ∧
    z + 719468 = 146097 * era + (365 * yoe + yoe / 4 - yoe / 100) + doy ∧ civil z = ofYearDay (yoe + era * 400) doy :=
  have ⟨b1, b2, b3⟩ := yoe_bounds _ (Nat.mod_lt (z + 719468) (by decide))
  -- the witnesses: era, year of the era, day of that year (`civil`'s `doy`, which `b3` bounds)
  ⟨(z + 719468) / 146097, yoeOf ((z + 719468) % 146097), _, b1, b3, by omega, rfl⟩

theorem civil_injective {z z' : Nat} (h : civil z = civil z') : z = z' := by
  obtain ⟨era, yoe, doy, hy, hd, e, hz⟩ := civil_split z
  obtain ⟨era', yoe', doy', hy', hd', e', hz'⟩ := civil_split z'
  rw [hz, hz'] at h
  obtain ⟨ey, rfl⟩ := ofYearDay_injective hd hd' h
  obtain ⟨rfl, rfl⟩ : yoe = yoe' ∧ era = era' := by omega
  omega

end TM.Civil
