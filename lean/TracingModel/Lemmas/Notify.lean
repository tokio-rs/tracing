/- Given the rows of the generated `Layered` table, every tree-recursive function of the fan-out model (`notifyT`, `checkT`,
and the hand-written `registerT` where no layer answers `never`) over an `and_then` tree equals its counterpart of the
list specification over `leaves t`; and the specification commutes with dropping the absent layers (`present`, `vis`). -/
import TracingModel.Core.Notify
import TracingModel.Spec.NotifySpec

namespace TM.Notify
open TM.NotifySpec

/-- what the generated table must say about a Subscribe-level data notification -/
abbrev SeqInnerFirst (m : String) : Prop :=
  shape "Subscribe" m = "seq" ∧ calls "Subscribe" m = [("inner", m), ("subscriber", m)]

abbrev SeqOuterFirst (m : String) : Prop :=
  shape "Subscribe" m = "seq" ∧ calls "Subscribe" m = [("subscriber", m), ("inner", m)]

abbrev GuardOuterFirst (m : String) : Prop :=
  shape "Subscribe" m = "guard" ∧ calls "Subscribe" m = [("subscriber", m), ("inner", m)]

theorem notifyT_inner_first {m : String} (h : SeqInnerFirst m) (t : Tree) :
    notifyT t m = sNotify (leaves t) m := by
  induction t with
  | leaf l => rfl
  -- the table row is `[inner, subscriber]`, so the `flatMap` over it is `notifyT i m ++ notifyT o m`
  | node i o ihi iho => simp [notifyT, h.1, h.2, leaves, ihi, iho, sNotify]

theorem notifyT_outer_first {m : String} (h : SeqOuterFirst m) (t : Tree) :
    notifyT t m = sNotify (leaves t).reverse m := by
  induction t with
  | leaf l => rfl
  | node i o ihi iho => simp [notifyT, h.1, h.2, leaves, ihi, iho, sNotify]

theorem sCheckGo_append (ans : Layer → Bool) (m : String) (a b : List Layer) :
    sCheckGo ans m (a ++ b) =
      (if (sCheckGo ans m a).1 then ((sCheckGo ans m b).1, (sCheckGo ans m a).2 ++ (sCheckGo ans m b).2)
       else (false, (sCheckGo ans m a).2)) := by
  induction a with
  | nil => simp [sCheckGo]
  | cons x rest ih =>
    by_cases hx : ans x <;> by_cases hr : (sCheckGo ans m rest).1 <;> simp [sCheckGo, ih, hx, hr]

theorem checkT_outer_first {m : String} (h : GuardOuterFirst m) (ans : Layer → Bool) (t : Tree) :
    checkT ans t m = sCheckGo ans m (leaves t).reverse := by
  induction t with
  | leaf l => by_cases hl : ans l <;> simp [checkT, leaves, sCheckGo, hl]
  -- shape `guard`: ask `o`, and `i` only if `o` accepted, which is `sCheckGo` on `(leaves o).reverse ++ (leaves i).reverse`
  | node i o ihi iho => simp [checkT, h.1, h.2, leaves, sCheckGo_append, ihi, iho]

theorem sCheckGo_all (ans : Layer → Bool) (m : String) (ls : List Layer) :
    (sCheckGo ans m ls).1 = ls.all ans := by
  induction ls with
  | nil => rfl
  | cons x rest ih => by_cases hx : ans x <;> simp [sCheckGo, hx, ih]

theorem sCheck_fst (ans : Layer → Bool) (ls : List Layer) (m : String) : (sCheck ans ls m).1 = ls.all ans := by
  rw [sCheck, sCheckGo_all, List.all_reverse]

theorem all_false_of_veto {ans : Layer → Bool} {ls : List Layer} (h : ∃ l ∈ ls, ans l = false) : ls.all ans = false :=
  List.all_eq_false.mpr (h.imp fun _ hl => ⟨hl.1, by simp [hl.2]⟩)

/-- who was asked: an initial stretch of the layers, outermost first, each once (that it ends with the first refusal is
`sCheckGo`'s definition; `sCheckGo_log_full`: nobody is left out when all accept) -/
theorem sCheckGo_log_prefix (ans : Layer → Bool) (m : String) (ls : List Layer) :
    (sCheckGo ans m ls).2 <+: ls.map (fun l => (l.n, m)) := by
  induction ls with
  | nil => simp [sCheckGo]
  | cons x rest ih => by_cases hx : ans x <;> simp [sCheckGo, hx, ih]

theorem sCheckGo_log_full (ans : Layer → Bool) (m : String) (ls : List Layer)
    (h : (sCheckGo ans m ls).1 = true) : (sCheckGo ans m ls).2 = ls.map (fun l => (l.n, m)) := by
  induction ls with
  | nil => rfl
  | cons x rest ih => by_cases hx : ans x <;> simp_all [sCheckGo]

def NoNever (t : Tree) : Prop := ∀ l ∈ leaves t, ∀ k, l.kind ≠ .never k

theorem staticInterest_ne_never (lvl : Nat) {k : Kind} (h : ∀ j, k ≠ .never j) : staticInterest lvl k ≠ .never := by
  cases k <;> simp_all [staticInterest]

theorem refuses_not_always {lvl : Nat} {l : Layer} (h : acceptsMeta lvl l = false) :
    staticInterest lvl l.kind ≠ .always := by
  unfold acceptsMeta at h
  -- only `metaVeto k` and `never k` can refuse: the first registers `sometimes`, the second `never` once `lvl > k`
  cases hk : l.kind <;> simp_all [staticInterest]

theorem acceptsMeta_plain (lvl : Nat) {l : Layer} (h : l.kind = .plain) : acceptsMeta lvl l = true := by
  simp [acceptsMeta, h]

theorem acceptsEvent_plain (lvl : Nat) {l : Layer} (h : l.kind = .plain) : acceptsEvent lvl l = true := by
  simp [acceptsEvent, h]

theorem sRegister_ne_never (lvl : Nat) (ls : List Layer) : (sRegister lvl ls).1 ≠ .never := by
  unfold sRegister; split <;> simp

/-- with no refusing layer every `pick_interest` goes on to its inner half, so the whole tree is asked, outside in -/
theorem registerT_noNever (lvl : Nat) (t : Tree) (h : NoNever t) : registerT lvl t = sRegister lvl (leaves t) := by
  induction t with
  | leaf l =>
    have hl := staticInterest_ne_never lvl (h l (by simp [leaves]))
    cases hk : staticInterest lvl l.kind <;> simp_all [registerT, sRegister, leaves]
  | node i o ihi iho =>
    have ei := ihi fun l hl => h l (by simp [leaves, hl])
    have eo := iho fun l hl => h l (by simp [leaves, hl])
    simp only [registerT, eo, ei, sRegister_ne_never, if_false]
    simp only [sRegister, leaves, List.any_append, List.reverse_append, List.map_append]
    by_cases a : (leaves o).any (fun l => staticInterest lvl l.kind == .sometimes) <;>
      by_cases b : (leaves i).any (fun l => staticInterest lvl l.kind == .sometimes) <;> simp [a, b]

end TM.Notify

namespace TM.NotifySpec
open TM.Notify

theorem sInterestFor_log (ls : List Layer) (s : NState) (mi : Nat) :
    ∃ extra, (sInterestFor ls s mi).1.log = s.log ++ extra ∧ ∀ e ∈ extra, e.2 = "register_callsite" := by
  unfold sInterestFor
  split
  · exact ⟨[], by simp, by simp⟩
  · exact ⟨(sRegister (levelOf mi) ls).2, rfl, by simp [sRegister]⟩

theorem sCheck_log_kind (ans : Layer → Bool) (ls : List Layer) (m : String) : ∀ e ∈ (sCheck ans ls m).2, e.2 = m := by
  intro e he
  obtain ⟨l, -, rfl⟩ := List.mem_map.mp ((sCheckGo_log_prefix ans m ls.reverse).subset he)
  rfl

theorem sGate_log (ls : List Layer) (s : NState) (mi : Nat) :
    ∃ extra, (sGate ls s mi).1.log = s.log ++ extra ∧ ∀ e ∈ extra, e.2 = "register_callsite" ∨ e.2 = "enabled" := by
  obtain ⟨x, hx, hk⟩ := sInterestFor_log ls s mi
  have hk' : ∀ e ∈ x, e.2 = "register_callsite" ∨ e.2 = "enabled" := fun e he => .inl (hk e he)
  unfold sGate
  dsimp only
  split
  · exact ⟨x, hx, hk'⟩
  · exact ⟨x, hx, hk'⟩
  · refine ⟨x ++ (sCheck (acceptsMeta (levelOf mi)) ls "enabled").2, by simp [hx], ?_⟩
    intro e he
    rcases List.mem_append.mp he with h | h
    · exact hk' e h
    · exact Or.inr (sCheck_log_kind _ _ _ e h)

/-- absent layers (`None`, an empty `Vec`, `Identity`) are numbered 0; they are always interested and accept everything -/
def AbsentPlain (ls : List Layer) : Prop := ∀ l ∈ ls, l.n = 0 → l.kind = .plain

theorem vis_append (a b : List Entry) : vis (a ++ b) = vis a ++ vis b := List.filter_append ..

theorem vis_sNotify (ls : List Layer) (m : String) : vis (sNotify ls m) = sNotify (present ls) m := by
  simp only [vis, sNotify, present, List.filter_map]; rfl

theorem present_reverse (ls : List Layer) : present ls.reverse = (present ls).reverse := List.filter_reverse ..

theorem sCheckGo_present {ans : Layer → Bool} {ls : List Layer} (h : ∀ l ∈ ls, l.n = 0 → ans l = true) (m : String) :
    sCheckGo ans m (present ls) = ((sCheckGo ans m ls).1, vis (sCheckGo ans m ls).2) := by
  induction ls with
  | nil => rfl
  | cons x rest ih =>
    have ih := ih fun l hl => h l (List.mem_cons_of_mem _ hl)
    have hx := h x (List.mem_cons_self ..)
    simp only [present, vis] at ih ⊢
    by_cases h0 : x.n = 0
    · simp [sCheckGo, h0, hx h0, ih]
    · by_cases hax : ans x <;> simp [sCheckGo, h0, hax, ih]

theorem sCheck_present {ans : Layer → Bool} {ls : List Layer} (h : ∀ l ∈ ls, l.n = 0 → ans l = true) (m : String) :
    sCheck ans (present ls) m = ((sCheck ans ls m).1, vis (sCheck ans ls m).2) := by
  rw [sCheck, ← present_reverse, sCheckGo_present fun l hl => h l (List.mem_reverse.mp hl)]; rfl

theorem any_present {q : Layer → Bool} {ls : List Layer} (h : ∀ l ∈ ls, l.n = 0 → q l = false) :
    (present ls).any q = ls.any q := by
  induction ls with
  | nil => rfl
  | cons x rest ih =>
    have ih := ih fun l hl => h l (List.mem_cons_of_mem _ hl)
    have hx := h x (List.mem_cons_self ..)
    simp only [present] at ih ⊢
    by_cases h0 : x.n = 0 <;> simp [h0, hx, ih]

theorem sRegister_present {ls : List Layer} (h : AbsentPlain ls) (lvl : Nat) :
    sRegister lvl (present ls) = ((sRegister lvl ls).1, vis (sRegister lvl ls).2) := by
  have : (present ls).any (fun l => staticInterest lvl l.kind == .sometimes) = ls.any _ :=
    any_present fun l hl h0 => by simp [h l hl h0, staticInterest]
  simp only [sRegister, this, present_reverse, ← sNotify.eq_1, vis_sNotify]

def visS (s : NState) : NState := { s with log := vis s.log }

theorem sGate_present {ls : List Layer} (h : AbsentPlain ls) (s : NState) (mi : Nat) :
    sGate (present ls) (visS s) mi = (visS (sGate ls s mi).1, (sGate ls s mi).2) := by
  simp only [sGate, sInterestFor, sRegister_present h, visS,
    sCheck_present fun l hl h0 => acceptsMeta_plain (levelOf mi) (h l hl h0)]
  cases s.cache.lookup mi with
  | some i => cases i <;> simp [vis_append]
  | none => cases (sRegister (levelOf mi) ls).1 <;> simp [vis_append]

theorem sStep_present {ls : List Layer} (h : AbsentPlain ls) (s : NState) (op : Op) :
    sStep (present ls) (visS s) op = visS (sStep ls s op) := by
  have hev (lvl : Nat) := sCheck_present fun l hl h0 => acceptsEvent_plain lvl (h l hl h0)
  -- gate and check answer the same on both sides, so both take the same branch; there the log
  -- grows by the visible part of what the full stack appends
  cases op <;> simp only [sStep, sGate_present h, hev, apply_ite visS] <;> simp [visS, vis_append, vis_sNotify]

theorem sRun_present {ls : List Layer} (h : AbsentPlain ls) (ops : List Op) :
    sRun (present ls) ops = visS (sRun ls ops) := by
  have h0 : sInit (present ls) = visS (sInit ls) := by
    simp only [sInit, visS, vis_append, vis_sNotify, present_reverse]
  rw [sRun, h0, sRun]
  exact List.foldl_hom visS (sStep_present h)

end TM.NotifySpec
