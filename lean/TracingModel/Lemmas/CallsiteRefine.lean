import TracingModel.Lemmas.CallsiteInv

/-! The refinement argument of C01 and C02: the sequential registry model's outputs are the cache-free
specification's outputs. -/
namespace TM.Refine
open TM.Dispatch TM.Callsite TM.Spec.CoreSpec TM.CoreLemmas

private theorem interestOf_cache (s : CState) (cs : Cs) :
    (interestOf s cs).1.cache cs = some (interestOf s cs).2 := by
  unfold interestOf
  split
  · assumption
  · exact update_same

/-- the cached / freshly computed interest never contradicts a live collector's own static answer -/
private theorem interest_sound {lvl : Cs → Nat} {s : CState} (hi : Inv lvl s) (cs : Cs) (c : Cid)
    (ha : Alive s c) (hc0 : c ≠ 0) :
    ((interestOf s cs).2 = .always → (s.filt c).stat cs = .always) ∧
    ((interestOf s cs).2 = .never → (s.filt c).stat cs = .never) := by
  obtain ⟨_, B, hB, hm⟩ := (interestOf_inv hi cs).b cs _ (interestOf_cache s cs)
  obtain ⟨_, _, e⟩ := interestOf_fst s cs
  rw [e] at hB hm
  rw [hB, foldInterest_eq]
  exact ⟨fold_eq_imp (by decide) (hm c hc0 ha), fold_eq_imp (by decide) (hm c hc0 ha)⟩

/-- C01 in the model's own terms: the cached interest and MAX_LEVEL never decide otherwise than the
compile-time maximum and the current collector's filter -/
theorem guard_iff {lvl : Cs → Nat} {s : CState} (hi : Inv lvl s) {t : Tid} {c : Cid}
    (hc : current s.d t = some c) (st : Nat) (cs : Cs) :
    (emit st lvl s t cs).2 = true ↔ lvl cs ≤ st ∧ accepts (s.filt c) cs = true := by
  obtain ⟨ha, hc0⟩ := hi.current_live hc
  obtain ⟨hs1, hs2⟩ := interest_sound hi cs c ha hc0
  have hcf : curFilt (interestOf s cs).1 t = s.filt c := by
    obtain ⟨_, _, e⟩ := interestOf_fst s cs
    simp only [curFilt, e, hc]
  unfold emit
  split
  · rename_i hlv
    simp only [hcf, hlv.1, true_and]
    cases hi' : (interestOf s cs).2 with
    | never => simp [accepts, hs2 hi']
    | sometimes => simp
    | always => simp [accepts, hs1 hi']
  · rename_i hlv
    -- MAX_LEVEL is below the level: the collector's hint, which bounds what it accepts, is too
    refine iff_of_false (fun h => nomatch h) fun ⟨h1, hacc⟩ => hlv ⟨h1, ?_⟩
    have hne : (s.filt c).stat cs ≠ .never := by
      intro e; simp [accepts, e] at hacc
    exact Nat.le_trans (hi.d c cs hne) (hi.c c hc0 ha)

theorem delivery_iff {lvl : Cs → Nat} {s : CState} {sp : SState} (hi : Inv lvl s) (hr : DRel s sp)
    (st : Nat) (t : Tid) (cs : Cs) :
    (if (emit st lvl s t cs).2 then current (emit st lvl s t cs).1.d t else none)
      = delivered st lvl sp t cs := by
  obtain ⟨_, _, e⟩ := emit_fst st lvl s t cs
  rw [e]
  simp only [delivered, ← hr.current_eq t, ← hr.filt]
  cases hc : current s.d t with
  | none => simp
  | some c =>
    simp only [guard_iff hi hc st cs, (hi.current_live hc).2, ne_eq, not_false_eq_true, and_true]

theorem inv_reachable (st : Nat) (lvl : Cs → Nat) (ops : List Op) (hsc : ∀ op ∈ ops, OpSC lvl op)
    (s : CState) (sp : SState) (hi : Inv lvl s) (hr : DRel s sp) :
    Inv lvl (TM.Callsite.run st lvl s ops).1 ∧ DRel (TM.Callsite.run st lvl s ops).1 (TM.Spec.CoreSpec.run st lvl sp ops).1 :=
  ⟨run_inv hi st hsc, run_drel hr st lvl ops⟩

theorem snd_ite {α} {p : Prop} [Decidable p] (a b : α) (o : Out) : (if p then (a, o) else (b, o)).2 = o := by
  split <;> rfl

theorem step_out {lvl : Cs → Nat} {s : CState} {sp : SState} (hi : Inv lvl s) (hr : DRel s sp) (st : Nat) (op : Op) :
    (TM.Callsite.step st lvl s op).2 = (TM.Spec.CoreSpec.step st lvl sp op).2 := by
  cases op with
  | setGlobal c =>
    simp only [TM.Callsite.step, TM.Spec.CoreSpec.step, ← hr.handle]
    split
    · cases hg : sp.glob with
      | none => simp only [(drel_setGlobal hr c hg).2]
      | some g => simp only [setGlobal_again hr c (by simp [hg])]
    · rfl
  | emit t cs =>
    simp only [TM.Callsite.step, TM.Spec.CoreSpec.step, ← hr.nthreads]
    split
    · simp only [delivery_iff hi hr st t cs]
    · rfl
  | threadStart | dropHandle _ | rebuild | flip _ _ => rfl
  | newCollector c f => exact (snd_ite ..).symm
  | setDefault t c | popDefault t => exact (snd_ite ..).trans (snd_ite ..).symm

theorem refines_spec (st : Nat) (lvl : Cs → Nat) (ops : List Op) (hsc : ∀ op ∈ ops, OpSC lvl op)
    (s : CState) (sp : SState) (hi : Inv lvl s) (hr : DRel s sp) :
    (TM.Callsite.run st lvl s ops).2 = (TM.Spec.CoreSpec.run st lvl sp ops).2 := by
  induction ops generalizing s sp with
  | nil => rfl
  | cons op ops ih =>
    obtain ⟨hop, hops⟩ := List.forall_mem_cons.mp hsc
    simp only [TM.Callsite.run, TM.Spec.CoreSpec.run, step_out hi hr st op,
      ih hops _ _ (step_inv hi st hop) (step_drel hr st lvl op)]

end TM.Refine
