/- Different periods have different file names (Core/Rolling `fileName`): the name carries the date and time of the period's
start as zero-padded decimals between dashes (`dashed`); splitting at the dashes gives the padded decimals back, a padded
decimal has its number as value (`pad_value`), and the date determines the day (`civil_injective`). -/
import TracingModel.Lemmas.Civil

namespace TM.Rolling
open TM.Civil

theorem period_pos {k : Kind} (hk : k ≠ .never) : 0 < period k := by
  cases k <;> simp [period] at hk ⊢

theorem pad_value (w n : Nat) : Nat.ofDigitChars 10 (pad w n) 0 = n := by
  unfold pad
  rw [Nat.ofDigitChars_append, Nat.ofDigitChars_replicate_zero]
  simp [Nat.ofDigitChars_ten_toDigits]

theorem dash_not_in_pad (w n : Nat) : '-' ∉ pad w n := by
  unfold pad
  intro h
  rcases List.mem_append.mp h with h | h
  · exact absurd (List.eq_of_mem_replicate h) (by decide)
  · exact absurd (Nat.isDigit_of_mem_toDigits (by decide) (by decide) h) (by decide)

/-- numbers `(width, n)`, each zero-padded to its width, between dashes -/
def dashed (fs : List (Nat × Nat)) : List Char := ['-'].intercalate (fs.map fun f => pad f.1 f.2)

/-- the numbers can be read back: no padded decimal contains a dash, so splitting at the dashes undoes `intercalate` -/
theorem dashed_values {fs : List (Nat × Nat)} (hne : fs ≠ []) :
    ((dashed fs).splitOn '-').map (Nat.ofDigitChars 10 · 0) = fs.map (·.2) := by
  have hdash : ∀ l ∈ fs.map (fun f => pad f.1 f.2), '-' ∉ l := by
    intro l hl
    obtain ⟨f, -, rfl⟩ := List.mem_map.mp hl
    exact dash_not_in_pad f.1 f.2
  rw [dashed, List.splitOn_intercalate '-' hdash (mt List.map_eq_nil_iff.mp hne), List.map_map]
  exact List.map_congr_left fun f _ => pad_value f.1 f.2

theorem dashed_injective {fs fs' : List (Nat × Nat)} (hne : fs ≠ []) (hne' : fs' ≠ []) (h : dashed fs = dashed fs') :
    fs.map (·.2) = fs'.map (·.2) := by
  rw [← dashed_values hne, h, dashed_values hne']

/-- the fields of the date part of `dateOfQ`, from the date's components and the second of the day -/
def dateFields (k : Kind) (c : Nat × Nat × Nat) (sod : Nat) : List (Nat × Nat) :=
  (4, c.1) :: (2, c.2.1) :: (2, c.2.2) :: match k with
    | .minutely => [(2, sod / 3600), (2, sod % 3600 / 60)]
    | .hourly => [(2, sod / 3600)]
    | _ => []

theorem dateOfQ_eq {k : Kind} (hk : k ≠ .never) (q : Nat) :
    dateOfQ k q = String.ofList (dashed (dateFields k (civil (q * period k / 86400)) (q * period k % 86400))) := by
  unfold dateOfQ dashed dateFields
  simp only [if_neg (Nat.ne_of_gt (period_pos hk))]
  cases k with
  | never => exact absurd rfl hk
  | _ => simp only [List.map_cons, List.map_nil, List.intercalate_cons_cons, List.intercalate_singleton, List.append_assoc]

theorem dateOfQ_injective {k : Kind} (hk : k ≠ .never) {q q' : Nat} (h : dateOfQ k q = dateOfQ k q') : q = q' := by
  rw [dateOfQ_eq hk, dateOfQ_eq hk] at h
  have h := dashed_injective (List.cons_ne_nil _ _) (List.cons_ne_nil _ _) (String.ofList_injective h)
  simp only [List.map_cons, List.cons.injEq] at h
  obtain ⟨ey, em, ed, hrest⟩ := h
  -- the date gives the day, the other fields the period within the day
  have eday := civil_injective (Prod.ext ey (Prod.ext em ed))
  -- without this `omega` takes the components of the two dates for atoms, and is markedly slower
  clear ey em ed
  cases k with
  | never => exact absurd rfl hk
  | daily =>
    simp only [period] at eday
    omega
  | hourly =>
    simp only [period, List.map_cons, List.map_nil, List.cons.injEq, and_true] at eday hrest
    omega
  | minutely =>
    simp only [period, List.map_cons, List.map_nil, List.cons.injEq, and_true] at eday hrest
    omega

theorem fileName_injective {k : Kind} (hk : k ≠ .never) {pre suf : Option String} {t t' : Nat}
    (h : fileName k pre suf t = fileName k pre suf t') : periodIndex k t = periodIndex k t' := by
  apply dateOfQ_injective hk
  unfold fileName at h
  cases k with
  | never => exact absurd rfl hk
  | _ => cases pre <;> cases suf <;> simpa only [String.append_assoc, String.append_right_inj, String.append_left_inj] using h

end TM.Rolling
