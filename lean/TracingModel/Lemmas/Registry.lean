/-
What the operations of Core/Registry.lean do, in the form the proofs use: the span stack's `pop` through core's `eraseP` /
`find?`, and `clone_span` and one round of `try_close` case by case (`cloneRef_cases`, `tryClose_none` and
`tryClose_succ_cases`: the only places that unfold the two).
-/
import TracingModel.Core.Registry
import TracingModel.Lemmas.Lists

namespace TM.Registry
open TM.Lists

theorem mem_push {st : List Ctx} {id : Sid} {c : Ctx} (h : c ∈ (push st id).1) : c ∈ st ∨ c.id = id := by
  simp only [push, List.mem_append, List.mem_singleton] at h
  exact h.imp_right fun e => by rw [e]

/-- `SpanStack::pop` takes out the topmost entry with this id (`iter().rev().find(..)` in stack.rs: the stack is stored
oldest first) -/
theorem pop_eq (st : List Ctx) (id : Sid) :
    pop st id = ((st.reverse.eraseP (·.id == id)).reverse, (st.reverse.find? (·.id == id)).any (!·.duplicate)) := by
  have key : removeLast id st =
      (st.reverse.find? (·.id == id)).map fun c => (c, (st.reverse.eraseP (·.id == id)).reverse) := by
    induction st with
    | nil => rfl
    | cons a as ih =>
      rw [removeLast, ih, List.reverse_cons, List.find?_append, List.eraseP_append]
      cases h : as.reverse.find? (·.id == id) with
      | some x => simp [List.any_eq_true.mpr ⟨x, List.mem_of_find?_eq_some h, List.find?_some h⟩]
      | none =>
        have : as.reverse.any (·.id == id) = false := List.any_eq_false.mpr (List.find?_eq_none.mp h)
        by_cases e : a.id = id <;> simp [this, e]
  rw [pop, key]
  cases h : st.reverse.find? (·.id == id) with
  | some c => rfl
  | none => simp [List.eraseP_of_forall_not (List.find?_eq_none.mp h)]

theorem mem_pop {st : List Ctx} {id : Sid} {c : Ctx} (h : c ∈ (pop st id).1) : c ∈ st := by
  rw [pop_eq] at h
  exact List.mem_reverse.mp (List.mem_of_mem_eraseP (List.mem_reverse.mp h))

theorem current_mem {st : List Ctx} {p : Sid} (h : current st = some p) : ∃ c ∈ st, c.id = p ∧ c.duplicate = false := by
  rw [current, List.head?_filter] at h
  obtain ⟨c, hc, rfl⟩ := Option.map_eq_some_iff.mp h
  exact ⟨c, List.mem_reverse.mp (List.mem_of_find?_eq_some hc), rfl, by simpa using List.find?_some hc⟩

theorem update_same {α} {f : Tid → α} {t : Tid} {v : α} : update f t v t = v := if_pos rfl
theorem update_other {α} {f : Tid → α} {t t' : Tid} {v : α} (h : t' ≠ t) : update f t v t' = f t' := if_neg h

theorem getElem?_setSlot {s : RState} {i : Sid} {old : Slot} (hs : s.slots[i]? = some old) (new : Slot) (j : Sid) :
    (setSlot s i new).slots[j]? = if j = i then some new else s.slots[j]? :=
  getElem?_set_of_some hs new j

theorem length_setSlot (s : RState) (i : Sid) (sl : Slot) : (setSlot s i sl).slots.length = s.slots.length :=
  List.length_set

theorem cloneRef_cases (s : RState) (id : Sid) :
    (cloneRef s id = s ∧ ∀ sl, s.slots[id]? = some sl → sl.refs = 0) ∨
    ∃ sl, s.slots[id]? = some sl ∧ sl.refs ≠ 0 ∧ cloneRef s id = setSlot s id { sl with refs := sl.refs + 1 } := by
  unfold cloneRef
  cases s.slots[id]? with
  | none => exact Or.inl ⟨rfl, nofun⟩
  | some sl =>
    dsimp only
    split
    · exact Or.inl ⟨rfl, fun _ e => by cases e; assumption⟩
    · exact Or.inr ⟨sl, rfl, ‹_›, rfl⟩

theorem cloneRef_eq {s : RState} {id : Sid} {sl : Slot} (hs : s.slots[id]? = some sl) (h0 : 1 ≤ sl.refs) :
    cloneRef s id = setSlot s id { sl with refs := sl.refs + 1 } := by
  rcases cloneRef_cases s id with ⟨-, h⟩ | ⟨sl', hs', -, e⟩
  · exact absurd (h sl hs) (Nat.ne_of_gt h0)
  · cases hs.symm.trans hs'; exact e

theorem cloneRef_stacks (s : RState) (id : Sid) : (cloneRef s id).stacks = s.stacks := by
  rcases cloneRef_cases s id with ⟨e, -⟩ | ⟨sl, -, -, e⟩ <;> rw [e] <;> rfl

theorem refParent_length (s : RState) (p : Option Sid) : (refParent s p).slots.length = s.slots.length := by
  cases p with
  | none => rfl
  | some p =>
    rcases cloneRef_cases s p with ⟨e, -⟩ | ⟨sl, -, -, e⟩ <;> rw [refParent, e]
    exact length_setSlot s p _

/-- what `try_close` leaves when it has taken the last reference: the slot wiped and `id` logged as closed; the reference the
span held on its parent is still to be released -/
def clearSlot (s : RState) (id : Sid) : RState :=
  { (setSlot s id { refs := 0, parent := none, present := false }) with closed := s.closed ++ [id] }

theorem tryClose_none {s : RState} {id : Sid} (hs : s.slots[id]? = none) (fuel : Nat) (t : Tid) : tryClose fuel s t id = s := by
  cases fuel with
  | zero => rfl
  | succ n => rw [tryClose, hs]

theorem tryClose_succ_cases {s : RState} {id : Sid} {sl : Slot} (hs : s.slots[id]? = some sl) (fuel : Nat) (t : Tid) :
    sl.refs = 0 ∧ tryClose (fuel + 1) s t id = s ∨
    1 < sl.refs ∧ tryClose (fuel + 1) s t id = setSlot s id { sl with refs := sl.refs - 1 } ∨
    sl.refs = 1 ∧ (sl.parent = none ∨ s.dflt t = .noneD) ∧ tryClose (fuel + 1) s t id = clearSlot s id ∨
    sl.refs = 1 ∧ ∃ p, sl.parent = some p ∧ s.dflt t = .own ∧ tryClose (fuel + 1) s t id = tryClose fuel (clearSlot s id) t p := by
  rw [tryClose, hs]
  dsimp only
  by_cases h0 : sl.refs = 0
  · rw [if_pos h0]; exact Or.inl ⟨h0, rfl⟩
  · rw [if_neg h0]
    refine Or.inr ?_
    by_cases h1 : sl.refs > 1
    · rw [if_pos h1]; exact Or.inl ⟨h1, rfl⟩
    · rw [if_neg h1]
      have h1 : sl.refs = 1 := Nat.le_antisymm (Nat.le_of_not_lt h1) (Nat.pos_of_ne_zero h0)
      refine Or.inr ?_
      cases sl.parent with
      | none => exact Or.inl ⟨h1, Or.inl rfl, rfl⟩
      | some p =>
        cases s.dflt t with
        | own => exact Or.inr ⟨h1, p, rfl, rfl, rfl⟩
        | noneD => exact Or.inl ⟨h1, Or.inr rfl, rfl⟩

theorem tryClose_stacks (fuel : Nat) (s : RState) (t : Tid) (id : Sid) : (tryClose fuel s t id).stacks = s.stacks := by
  induction fuel generalizing s id with
  | zero => rfl
  | succ n ih =>
    cases hs : s.slots[id]? with
    | none => rw [tryClose_none hs]
    | some sl =>
      rcases tryClose_succ_cases hs n t with ⟨-, e⟩ | ⟨-, e⟩ | ⟨-, -, e⟩ | ⟨-, p, -, -, e⟩
      · rw [e]
      · rw [e]; rfl
      · rw [e]; rfl
      · rw [e]; exact ih _ p

end TM.Registry
