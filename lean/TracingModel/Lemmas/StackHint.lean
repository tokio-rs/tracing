/-
The max-level hint a whole stack publishes (`Layered::max_level_hint` / `pick_level_hint`, model
`Core/Reload.stackHint`) is a sound upper bound on what any of its layers would receive.  Used by
C08 (summaries of whole stacks) and C12 (MAX_LEVEL after a reload).
-/
import TracingModel.Core.Reload
import TracingModel.Lemmas.Filtering

namespace C12
open TM.Reload TM.Filtering TM.FilterExpr TM.Directive TM.FilteringLemmas

def BuiltStack (st : List Node) : Prop :=
  ∀ nd ∈ st, match nd with
    | .glob g => C08.Built g
    | .filt _ f _ => C08.Built f
    | .plain _ => True

theorem belowHint_optMax_left {a : Nat} {b : Option Nat} {m : Meta} (ha : belowHint (some a) m = true) :
    belowHint (optMax (some a) b) m = true := by
  cases b with
  | none => exact ha
  | some y => exact C08.belowHint_some.mpr (Nat.le_trans (C08.belowHint_some.mp ha) (Nat.le_max_left a y))

theorem belowHint_optMax_right {a : Option Nat} {b : Nat} {m : Meta} (hb : belowHint (some b) m = true) :
    belowHint (optMax a (some b)) m = true := by
  cases a with
  | none => exact hb
  | some x => exact C08.belowHint_some.mpr (Nat.le_trans (C08.belowHint_some.mp hb) (Nat.le_max_right x b))

/-- `pick_level_hint` unless both sides are per-layer filtered (that case is `C08.belowHint_max`):
the side that is not per-layer filtered lets nothing through above its bound, and the hint of a
filtered side is only used together with such a bound -/
theorem pickHint_glob {psfO psfI : Bool} {oh ih : Option Nat} {m : Meta} (hp : (psfO && psfI) = false)
    (ho : psfO = false → belowHint oh m = true) (hi : psfI = false → belowHint ih m = true) :
    belowHint (pickHint psfO psfI oh ih) m = true := by
  cases psfO with
  | false =>
    cases oh with
    | some a => cases psfI <;> exact belowHint_optMax_left (ho rfl)
    | none =>
      cases psfI with
      | false => exact hi rfl
      | true => rfl
  | true =>
    cases psfI with
    | true => cases hp
    | false =>
      cases ih with
      | none => rfl
      | some b => exact belowHint_optMax_right (hi rfl)

/-- the node's own filter lets the emission through (a plain layer has none) -/
def accepts (m : Meta) (c : Ctx) : Node → Bool
  | .plain _ => true
  | .glob g => enabledF g m c
  | .filt _ f _ => enabledF f m c

theorem leafHint_sound {nd : Node} {l : List Node} (hh : HonestStack l) (hb : BuiltStack l) (hnd : nd ∈ l)
    {m : Meta} {c : Ctx} (ha : accepts m c nd = true) : belowHint (leafHint nd) m = true := by
  have h1 := hh nd hnd
  have h2 := hb nd hnd
  cases nd with
  | plain n => rfl
  | glob g => exact C08.hint_sound g h1 h2 m c ha
  | filt fid f n => exact C08.hint_sound f h1 h2 m c ha

theorem accepts_of_globalsOk {l : List Node} {m : Meta} {c : Ctx} (hg : globalsOk l m c = true) {nd : Node}
    (hnd : nd ∈ l) (hf : nd.isFilt = false) : accepts m c nd = true := by
  have := List.all_eq_true.mp hg nd hnd
  cases nd with
  | plain n => rfl
  | glob g => exact this
  | filt fid f n => cases hf

/-- nodes outermost first.  Two modes, as in `pick_level_hint`: in an all-filtered tree the hint
bounds each node that accepts; otherwise it is a bound only when every global filter accepts -/
theorem hintTree_sound (m : Meta) (c : Ctx) (l : List Node) (hh : HonestStack l) (hb : BuiltStack l) :
    (l.all Node.isFilt = true → ∀ nd ∈ l, accepts m c nd = true → belowHint (hintTree l) m = true) ∧
    (l.all Node.isFilt = false → globalsOk l m c = true → belowHint (hintTree l) m = true) := by
  induction l with
  | nil => exact ⟨fun _ _ h => (nomatch h), nofun⟩
  | cons nd below ih =>
    have hleaf := @leafHint_sound nd _ hh hb (List.mem_cons_self ..) m c
    cases below with
    | nil =>
      refine ⟨fun _ x hx => ?_, fun hf hg => hleaf (accepts_of_globalsOk hg (List.mem_cons_self ..) ?_)⟩
      · rw [List.mem_singleton.mp hx]; exact hleaf
      · simpa using hf
    | cons nd2 rest =>
      obtain ⟨ih1, ih2⟩ := ih (fun x hx => hh x (List.mem_cons_of_mem _ hx)) (fun x hx => hb x (List.mem_cons_of_mem _ hx))
      rw [show hintTree (nd :: nd2 :: rest) =
        pickHint nd.isFilt ((nd2 :: rest).all Node.isFilt) (leafHint nd) (hintTree (nd2 :: rest)) from rfl,
        List.all_cons (l := nd2 :: rest)]
      constructor
      · intro hall x hx hax
        rw [Bool.and_eq_true] at hall
        rw [hall.1, hall.2]
        rcases List.mem_cons.mp hx with e | hx
        · exact C08.belowHint_max (Or.inl (hleaf (e ▸ hax)))
        · exact C08.belowHint_max (Or.inr (ih1 hall.2 x hx hax))
      · intro hall hg
        refine pickHint_glob hall (fun hO => hleaf (accepts_of_globalsOk hg (List.mem_cons_self ..) hO)) (fun hI => ih2 hI ?_)
        rw [globalsOk_cons, Bool.and_eq_true] at hg
        exact hg.2

/-- **C12.stack_hint_sound** — whatever any layer of the stack would receive has a level within the
stack's advertised maximum level (MAX_LEVEL never hides a wanted emission) -/
theorem stack_hint_sound (st : Stack) (hh : HonestStack st) (hb : BuiltStack st) (m : Meta) (c : Ctx)
    (i : Nat) (hi : stackHint st = some i) (hr : shouldReceive st m c ≠ []) : m.level ≤ i := by
  obtain ⟨A, B⟩ := hintTree_sound m c st.reverse hh.reverse (fun x hx => hb x (List.mem_reverse.mp hx))
  rw [List.all_reverse, ← stackHint, hi] at A B
  rw [globalsOk_reverse] at B
  apply C08.belowHint_some.mp
  cases hg : globalsOk st m c with
  | false => exact absurd (shouldReceive_veto hg) hr
  | true =>
    cases hall : st.all Node.isFilt with
    | false => exact B hall hg
    | true =>
      rw [shouldReceive, if_pos hg] at hr
      obtain ⟨x, hx⟩ := List.exists_mem_of_ne_nil _ hr
      obtain ⟨nd, hnd, hs⟩ := List.mem_filterMap.mp hx
      refine A hall nd (List.mem_reverse.mpr hnd) ?_
      cases nd with
      | plain n => rfl
      | glob g => cases hs
      | filt fid f n =>
        simp only [specOf] at hs
        split at hs
        · assumption
        · cases hs

end C12
