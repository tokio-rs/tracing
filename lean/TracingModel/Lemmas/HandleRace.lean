/- Core/HandleRace with atomic clone / close: the stored count is the sum of the handles the threads hold, and the span has been
reported closed exactly when it is 0. -/
import TracingModel.Core.HandleRace
import TracingModel.Lemmas.Lists

namespace TM.HandleRace

@[simp] theorem updF_same {α : Type} (f : Nat → α) (t : Nat) (v : α) : updF f t v t = v := by simp [updF]
theorem updF_ne {α : Type} {f : Nat → α} {t x : Nat} {v : α} (h : x ≠ t) : updF f t v x = f x := by simp [updF, h]

theorem sum_updF {ths : List Nat} (hnd : ths.Nodup) {t : Nat} (ht : t ∈ ths) (f : Nat → Nat) (v : Nat) :
    (ths.map (updF f t v)).sum + f t = (ths.map f).sum + v := by
  have := Threads.sum_map_upd hnd (f := f) (f' := updF f t v) ht fun x hx => updF_ne hx
  rwa [updF_same] at this

structure Inv (ths : List Nat) (s : S) : Prop where
  count : s.refs = (ths.map s.held).sum
  once : s.closes = if s.refs = 0 then 1 else 0
  noHalf : ∀ t, s.pc t = .idle

theorem Inv.init {ths : List Nat} (hnd : ths.Nodup) {t0 : Nat} (h0 : t0 ∈ ths) : Inv ths (start t0) := by
  refine ⟨?_, rfl, fun _ => rfl⟩
  have e := sum_updF hnd h0 (fun _ => 0) 1
  have z : (ths.map fun _ => 0).sum = 0 := List.sum_eq_zero_iff_forall_eq_nat.mpr (by simp)
  rw [z] at e
  exact e.symm

theorem step_inv {ths : List Nat} (hnd : ths.Nodup) {s : S} (h : Inv ths s) {t : Nat} (a : Act) (ht : t ∈ ths)
    (hu : ∀ u, a = .give u → u ∈ ths) : Inv ths (step true true s (t, a)) := by
  have hc := h.count
  have hle : s.held t ≤ s.refs := hc ▸ Threads.le_sum_map s.held ht
  have e := sum_updF hnd ht s.held
  unfold step
  simp only [h.noHalf t]
  -- a thread that holds nothing can do nothing; one that holds `k + 1` handles finds the count positive: nothing is closed yet
  cases hk : s.held t with
  | zero => cases a <;> exact h
  | succ k =>
    have hz : s.closes = 0 := by rw [h.once, if_neg (by omega)]
    simp only [Nat.add_one_ne_zero, if_false, if_true, Nat.add_sub_cancel]
    cases a with
    | clone =>
      have := e (k + 1 + 1)
      refine { h with count := ?_, once := ?_ }
      · show s.refs + 1 = (ths.map (updF s.held t (k + 1 + 1))).sum
        omega
      · show s.closes = if s.refs + 1 = 0 then 1 else 0
        rw [hz, if_neg (Nat.add_one_ne_zero _)]
    | drop =>
      have := e k
      refine { h with count := ?_, once := ?_ }
      · show s.refs - 1 = (ths.map (updF s.held t k)).sum
        omega
      · show s.closes + (if s.refs = 1 then 1 else 0) = if s.refs - 1 = 0 then 1 else 0
        have : s.refs - 1 = 0 ↔ s.refs = 1 := by omega
        simp only [hz, Nat.zero_add, this]
    | step => exact h
    | give u =>
      by_cases eu : u = t
      · simpa only [eu, decide_true, Bool.or_true, if_true] using h
      · have e2 := sum_updF hnd (hu u rfl) (updF s.held t k) (s.held u + 1)
        rw [updF_ne eu] at e2
        have := e k
        simp only [eu, decide_false, Bool.or_false, Bool.false_eq_true, if_false]
        exact { h with count := by dsimp only; omega }

/-- every thread a schedule mentions (as actor or as receiver of a handle) is one of `ths` -/
def Within (ths : List Nat) (sched : List (Nat × Act)) : Prop :=
  ∀ ta ∈ sched, ta.1 ∈ ths ∧ ∀ u, ta.2 = .give u → u ∈ ths

theorem run_inv {ths : List Nat} (hnd : ths.Nodup) {s : S} (h : Inv ths s) {sched : List (Nat × Act)} (hs : Within ths sched) :
    Inv ths (run true true s sched) :=
  List.foldlRecOn sched _ h fun _ h' ta hta => step_inv hnd h' ta.2 (hs ta hta).1 (hs ta hta).2

theorem closed_iff_no_handles {ths : List Nat} {s : S} (h : Inv ths s) :
    s.closes ≤ 1 ∧ (s.closes = 1 ↔ ∀ t ∈ ths, s.held t = 0) := by
  have hz : s.refs = 0 ↔ ∀ t ∈ ths, s.held t = 0 := by
    rw [h.count, List.sum_eq_zero_iff_forall_eq_nat]; simp
  rw [h.once, ← hz]
  by_cases e : s.refs = 0 <;> simp [e]

end TM.HandleRace
