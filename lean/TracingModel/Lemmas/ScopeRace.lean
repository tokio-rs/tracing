/- Core/ScopeRace with an atomic counter bump: the counter is the sum of what each thread has contributed (`contrib`), and the
rest of the invariant speaks of one thread at a time (`Loc`), so a step has to be followed for the stepping thread only. -/
import TracingModel.Core.ScopeRace
import TracingModel.Lemmas.Lists

namespace TM.ScopeRace

@[simp] theorem updF_same {α : Type} (f : Nat → α) (t : Nat) (v : α) : updF f t v t = v := by simp [updF]
theorem updF_ne {α : Type} {f : Nat → α} {t x : Nat} {v : α} (h : x ≠ t) : updF f t v x = f x := by simp [updF, h]

theorem step_other (rmw : Bool) (g : Option Nat) (s : S) (u : Nat) (a : Act) (t : Nat) (h : t ≠ u) :
    (step rmw g s (u, a)).guards t = s.guards t ∧ (step rmw g s (u, a)).tl t = s.tl t ∧ (step rmw g s (u, a)).pc t = s.pc t := by
  unfold step
  dsimp only
  split <;> (try split) <;> simp only [updF_ne h, and_self]

/-- what thread `t` has contributed to the counter: its live guards, minus the one whose bump / restore is still under way -/
def contrib (s : S) (t : Nat) : Nat := (s.guards t).length - if s.pc t = .idle then 0 else 1

/-- every guard holds as prior value the collector of the guard below it -/
def Chain : List (Nat × Option Nat) → Prop
  | [] => True
  | (_, prior) :: rest => prior = rest.head?.map (·.1) ∧ Chain rest

/-- what the invariant says of one thread: of its thread-local, its guards and its call in progress, which another thread's
step leaves alone (`step_other`) -/
structure Loc (tl : Option Nat) (guards : List (Nat × Option Nat)) (pc : PC) : Prop where
  noLoaded : ∀ v, pc ≠ .loaded v
  top : tl = guards.head?.map (·.1)
  chain : Chain guards
  busy : pc ≠ .idle → guards ≠ []

structure Inv (ths : List Nat) (s : S) : Prop where
  count : s.c = (ths.map (contrib s)).sum
  loc : ∀ t, Loc (s.tl t) (s.guards t) (s.pc t)

theorem Inv.init (ths : List Nat) : Inv ths start := by
  refine ⟨?_, fun t => { noLoaded := fun v => by simp [start], top := rfl, chain := trivial, busy := fun h => absurd rfl h }⟩
  have : contrib start = fun _ => 0 := rfl
  rw [this]
  exact (List.sum_eq_zero_iff_forall_eq_nat.mpr (by simp)).symm

/-- `hc` is what makes the truncated `s.c - 1` of `close` exact -/
theorem step_self (g : Option Nat) {s : S} {t : Nat} (a : Act) (h : Loc (s.tl t) (s.guards t) (s.pc t)) (hc : contrib s t ≤ s.c) :
    let s' := step true g s (t, a)
    Loc (s'.tl t) (s'.guards t) (s'.pc t) ∧ s'.c + contrib s t = s.c + contrib s' t := by
  unfold step
  dsimp only
  cases hp : s.pc t <;> cases a
  case idle.open col =>
    -- the new guard is pending: the thread's contribution is unchanged
    exact ⟨{ noLoaded := by simp, top := by simp, chain := by simpa [Chain] using ⟨h.top, h.chain⟩, busy := by simp },
      by simp [contrib, hp]⟩
  case idle.close =>
    cases hg : s.guards t with
    | nil => exact ⟨h, rfl⟩
    | cons top rest =>
      refine ⟨{ h with noLoaded := by simp, busy := by simp [hg] }, ?_⟩
      simp only [contrib, hp, hg, updF_same, reduceCtorEq, if_true, if_false, List.length_cons] at hc ⊢
      omega
  case opened.step =>
    have : 1 ≤ (s.guards t).length := List.length_pos_iff.mpr (h.busy (by simp [hp]))
    refine ⟨{ h with noLoaded := by simp, busy := by simp }, ?_⟩
    simp only [contrib, hp, updF_same, reduceCtorEq, if_true, if_false]
    omega
  case closing.step =>
    cases hg : s.guards t with
    | nil => exact absurd hg (h.busy (by simp [hp]))
    | cons top rest =>
      have hch := hg ▸ h.chain
      exact ⟨{ noLoaded := by simp, top := by simpa using hch.1, chain := by simpa using hch.2, busy := by simp },
        by simp [contrib, hp, hg]⟩
  case loaded.step v => exact absurd hp (h.noLoaded v)
  case idle.get => exact ⟨{ h with }, rfl⟩
  all_goals exact ⟨h, rfl⟩

theorem step_inv (g : Option Nat) {ths : List Nat} (hnd : ths.Nodup) {s : S} (h : Inv ths s) {t : Nat} (a : Act) (ht : t ∈ ths) :
    Inv ths (step true g s (t, a)) := by
  have hle : contrib s t ≤ s.c := h.count ▸ Threads.le_sum_map (contrib s) ht
  obtain ⟨hl, hc⟩ := step_self g a (h.loc t) hle
  constructor
  · have := Threads.sum_map_upd hnd (f := contrib s) (f' := contrib (step true g s (t, a))) ht fun x hx => by
      obtain ⟨eGuards, -, ePc⟩ := step_other true g s t a x hx
      simp only [contrib, eGuards, ePc]
    have := h.count
    omega
  · intro x
    by_cases e : x = t
    · exact e ▸ hl
    · obtain ⟨eGuards, eTl, ePc⟩ := step_other true g s t a x e
      rw [eGuards, eTl, ePc]
      exact h.loc x

theorem run_inv (g : Option Nat) {ths : List Nat} (hnd : ths.Nodup) {s : S} (h : Inv ths s) {sched : List (Nat × Act)}
    (hs : ∀ ta ∈ sched, ta.1 ∈ ths) : Inv ths (run true g s sched) :=
  List.foldlRecOn sched _ h fun _ h' ta hta => step_inv g hnd h' ta.2 (hs ta hta)

/-- so `get_default` does not take the fast path while the thread has a live scope -/
theorem live_scope_counted {ths : List Nat} {s : S} (h : Inv ths s) {t : Nat} (ht : t ∈ ths) (hidle : s.pc t = .idle)
    (hlive : s.guards t ≠ []) : 1 ≤ s.c := by
  have hle := Threads.le_sum_map (contrib s) ht
  have : 1 ≤ (s.guards t).length := List.length_pos_iff.mpr hlive
  have := h.count
  simp only [contrib, hidle, if_true] at hle
  omega

theorem get_expected (g : Option Nat) {ths : List Nat} {s : S} (h : Inv ths s) {t : Nat} (ht : t ∈ ths) (hidle : s.pc t = .idle) :
    (step true g s (t, .get)).last t = some (expected g s t) := by
  have htop := (h.loc t).top
  unfold step
  simp only [hidle, updF_same]
  unfold expected
  cases hg : s.guards t with
  | nil => simp [htop, hg]
  | cons top rest =>
    have hc := live_scope_counted h ht hidle (by simp [hg])
    have hz : ¬ s.c = 0 := by omega
    simp [hz, htop, hg]

end TM.ScopeRace
