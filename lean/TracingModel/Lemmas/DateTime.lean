/- The steps of `fromUnix` (Core/DateTime) against the calendar of Spec/Civil.  Everything about counting leap years comes from two
identities on `leapsBefore` (one more year, 400 more years); the 400/100/4/1-year cycles with their clamps give the
March-based year and the day in it (`cycles_spec`, with `marchDays` the closed form for March 1st); the month loop is a
table of 366 rows checked by evaluation and read against the specification in `monthLoop_spec`. -/
import TracingModel.Core.DateTime
import TracingModel.Spec.Civil

namespace TM.Spec.Civil

theorem isLeap_iff (y : Int) : isLeap y = true ↔ (y % 4 = 0 ∧ y % 100 ≠ 0) ∨ y % 400 = 0 := by
  simp [isLeap]

theorem ediv_pred (y d : Int) (hd : 0 < d) : y / d = (y - 1) / d + if y % d = 0 then 1 else 0 := by
  have h1 := Int.mul_ediv_add_emod y d
  have h2 := Int.emod_nonneg y (Int.ne_of_gt hd)
  have h3 := Int.emod_lt_of_pos y hd
  split
  · have e : (y - 1) / d = y / d - 1 :=
      (Int.ediv_eq_iff_of_pos hd).mpr (by rw [Int.sub_mul, Int.one_mul, Int.mul_comm]; omega)
    omega
  · have e : (y - 1) / d = y / d := (Int.ediv_eq_iff_of_pos hd).mpr (by rw [Int.mul_comm]; omega)
    omega

/-- inclusion–exclusion, as the leap rule needs it on `y % 4 = 0`, `y % 100 = 0`, `y % 400 = 0` -/
theorem leap_indicator (p q r : Prop) [Decidable p] [Decidable q] [Decidable r] (i1 : q → p) (i2 : r → q) :
    ((if p then 1 else 0) - (if q then 1 else 0) + (if r then 1 else 0) : Int) = if (p ∧ ¬q) ∨ r then 1 else 0 := by
  by_cases hr : r
  · simp [hr, i2 hr, i1 (i2 hr)]
  · by_cases hq : q
    · simp [hr, hq, i1 hq]
    · by_cases hp : p <;> simp [hr, hq, hp]

theorem leapsBefore_succ (y : Int) : leapsBefore (y + 1) = leapsBefore y + (if isLeap y then 1 else 0) := by
  have h := leap_indicator (y % 4 = 0) (y % 100 = 0) (y % 400 = 0) (by omega) (by omega)
  simp only [leapsBefore, isLeap_iff, Int.add_sub_cancel, ediv_pred y 4 (by decide), ediv_pred y 100 (by decide),
    ediv_pred y 400 (by decide), ne_eq]
  omega

theorem leapsBefore_add_400 (y n : Int) : leapsBefore (y + 400 * n) = leapsBefore y + 97 * n := by
  simp only [leapsBefore]; omega

end TM.Spec.Civil

namespace TM.DateTime
open TM.Gen.DateTimeConsts TM.Spec.Civil

/-- truncating division by a positive literal, as linear facts `omega` can use -/
theorem tdivmod_spec (a b : Int) (hb : 0 < b) : a = b * a.tdiv b + a.tmod b ∧ -b < a.tmod b ∧ a.tmod b < b :=
  ⟨(Int.mul_tdiv_add_tmod a b).symm, Int.lt_tmod_of_pos a hb, Int.tmod_lt_of_pos a hb⟩

theorem daySplit_spec (t : Int) :
    let r := daySplit t
    0 ≤ r.2 ∧ r.2 < 86400 ∧ t = (r.1 + 11017) * 86400 + r.2 := by
  simp only [daySplit, SECS_PER_DAY, LEAPOCH]
  obtain ⟨h1, h2, h3⟩ := tdivmod_spec t 86400 (by omega)
  have hl : Int.tdiv (946684800 + 86400 * (31 + 29)) 86400 = 11017 := by decide
  rw [hl]
  by_cases h : t.tmod 86400 < 0
  · simp only [h, if_true]; omega
  · simp only [h, if_false]; omega

theorem floorDivMod_spec (a m : Int) (hm : 0 < m) :
    let r := floorDivMod a m
    0 ≤ r.2 ∧ r.2 < m ∧ a = m * r.1 + r.2 := by
  obtain ⟨h1, h2, h3⟩ := tdivmod_spec a m hm
  simp only [floorDivMod]
  by_cases h : a.tmod m < 0
  · simp only [h, if_true]
    rw [Int.mul_sub, Int.mul_one]; omega
  · simp only [h, if_false]
    omega

/-- `r.2 = d`: the leap day that ends a cycle; the clamp keeps it in the cycle's last part -/
theorem clampDiv_spec (n d k : Int) (hd : 0 < d) (hk : 0 < k) (h0 : 0 ≤ n) (hn : n ≤ d * k) :
    let r := clampDiv n d k
    0 ≤ r.1 ∧ r.1 < k ∧ 0 ≤ r.2 ∧ r.2 ≤ d ∧ (r.2 = d → r.1 = k - 1) ∧ n = d * r.1 + r.2 := by
  simp only [clampDiv, Int.tdiv_eq_ediv_of_nonneg h0]
  have h1 := Int.mul_ediv_add_emod n d
  have h2 := Int.emod_nonneg n (Int.ne_of_gt hd)
  have h3 := Int.emod_lt_of_pos n hd
  have h4 : 0 ≤ n / d := Int.ediv_nonneg h0 (Int.le_of_lt hd)
  have h5 : n / d ≤ k := Int.ediv_le_of_le_mul hd (by rwa [Int.mul_comm] at hn)
  generalize n / d = c at *
  split
  · subst c
    rw [Int.sub_mul, Int.one_mul, Int.mul_sub, Int.mul_one, Int.mul_comm k d]
    omega
  · rw [Int.mul_comm c d]
    omega

/-- days since 2000-03-01 of March 1st of year `2000 + years` -/
def marchDays (years : Int) : Int := 365 * years + years / 4 - years / 100 + years / 400

theorem marchDays_cycles (a b c d : Int) (hb : 0 ≤ b) (hb' : b < 4) (hc : 0 ≤ c) (hc' : c < 25) (hd : 0 ≤ d) (hd' : d < 4) :
    marchDays (d + 4 * c + 100 * b + 400 * a) = 146097 * a + 36524 * b + 1461 * c + 365 * d := by
  unfold marchDays; omega

/-- `+ 2001`: day 365 of the March-based year `2000 + y` is February 29th of `2001 + y` -/
theorem isLeap_cycles (a b c : Int) (hc : 0 ≤ c) (hc' : c < 25) (h : c = 24 → b = 3) :
    isLeap (3 + 4 * c + 100 * b + 400 * a + 2001) = true := by
  rw [isLeap_iff]; omega

theorem cycles_spec (days : Int) :
    let r := cycles days
    0 ≤ r.2 ∧ r.2 ≤ 365 ∧ days = marchDays r.1 + r.2 ∧
    (r.2 = 365 → isLeap (r.1 + 2001) = true) := by
  simp only [cycles, DAYS_PER_400Y, DAYS_PER_100Y, DAYS_PER_4Y, DAYS_PER_Y, C_CLAMP, Q_CLAMP, Y_CLAMP,
    W_Q, W_C, W_QC]
  obtain ⟨a0, a1, ea⟩ := floorDivMod_spec days (365 * 400 + 97) (by decide)
  generalize floorDivMod days (365 * 400 + 97) = a at *
  obtain ⟨b0, b1, b2, b3, bl, eb⟩ := clampDiv_spec a.2 (365 * 100 + 24) 4 (by decide) (by decide) a0 (by omega)
  generalize clampDiv a.2 (365 * 100 + 24) 4 = b at *
  obtain ⟨c0, c1, c2, c3, cl, ec⟩ := clampDiv_spec b.2 (365 * 4 + 1) 25 (by decide) (by decide) b2 (by omega)
  generalize clampDiv b.2 (365 * 4 + 1) 25 = c at *
  obtain ⟨d0, d1, d2, d3, dl, ed⟩ := clampDiv_spec c.2 365 4 (by decide) (by decide) c2 (by omega)
  generalize clampDiv c.2 365 4 = d at *
  rw [marchDays_cycles a.1 b.1 c.1 d.1 b0 b1 c0 c1 d0 d1]
  refine ⟨d2, d3, by omega, fun h => ?_⟩
  rw [dl h]
  exact isLeap_cycles a.1 b.1 c.1 c0 c1 (fun h24 => bl (by omega))

/-- 11017 days from 1970-01-01 to 2000-03-01; 306 from March 1st to the end of the year -/
theorem marchDays_spec (k : Int) :
    marchDays k + 11017 = daysBeforeYear (k + 2000) + 59 + (if isLeap (k + 2000) then 1 else 0) ∧
    marchDays k + 11017 = daysBeforeYear (k + 1 + 2000) - 306 := by
  have h := leapsBefore_succ (k + 2000)
  have h' := leapsBefore_add_400 (k + 1) 5
  rw [show k + 1 + 400 * 5 = k + 2000 + 1 by omega] at h'
  have e : marchDays k = 365 * k + leapsBefore (k + 1) := by
    simp only [marchDays, leapsBefore, Int.add_sub_cancel]; omega
  have e0 : leapsBefore 1970 = 477 := by decide
  rw [show k + 1 + 2000 = k + 2000 + 1 by omega]
  simp only [daysBeforeYear, e, e0]
  omega

/-- what the month loop must deliver for day `n` of the March-based year, for both leap flags of the civil year the date
falls in (the next one for January and February, which the loop reports as months 10, 11) -/
def monthLoopOK (n : Nat) : Bool :=
  match monthLoop DAYS_IN_MONTH 0 n with
  | none => false
  | some (m, r) =>
    let w := WRAP_CMP m WRAP_AT
    let M := (if w then m - WRAP_BY else m) + MONTH_BASE
    decide (1 ≤ M ∧ M ≤ 12 ∧ 1 ≤ r + DAY_BASE ∧ (n = 365 → w = true) ∧ ∀ leap : Bool,
      ((n = 365 → leap = true) → r + DAY_BASE ≤ monthLength leap M) ∧
      daysInFirstMonths leap (M - 1).toNat + r = if w then (n : Int) - 306 else 59 + (if leap then 1 else 0) + n)

theorem monthLoop_table : ∀ n : Fin 366, monthLoopOK n.val = true := by
  decide +kernel

theorem monthLoop_spec (years n : Int) (h0 : 0 ≤ n) (h1 : n ≤ 365) (hl : n = 365 → isLeap (years + 2001) = true) :
    ∃ m r, monthLoop DAYS_IN_MONTH 0 n = some (m, r) ∧
      let M := (if WRAP_CMP m WRAP_AT then m - WRAP_BY else m) + MONTH_BASE
      let Y := (if WRAP_CMP m WRAP_AT then years + 1 else years) + YEAR_BASE
      1 ≤ M ∧ M ≤ 12 ∧ 1 ≤ r + DAY_BASE ∧ r + DAY_BASE ≤ daysInMonth Y M ∧
      unixDays Y M (r + DAY_BASE) = marchDays years + n + 11017 := by
  obtain ⟨k, rfl⟩ := Int.eq_ofNat_of_zero_le h0
  have ht := monthLoop_table ⟨k, by omega⟩
  cases hml : monthLoop DAYS_IN_MONTH 0 k with
  | none => exact absurd ht (by simp [monthLoopOK, hml])
  | some ml =>
    obtain ⟨m, r⟩ := ml
    simp only [monthLoopOK, hml, decide_eq_true_eq] at ht
    obtain ⟨hM1, hM2, hD, hw, hleap⟩ := ht
    obtain ⟨hday, hsum⟩ := hleap (isLeap ((if WRAP_CMP m WRAP_AT then years + 1 else years) + YEAR_BASE))
    obtain ⟨e1, e2⟩ := marchDays_spec years
    refine ⟨m, r, rfl, hM1, hM2, hD, hday fun h => ?_, ?_⟩
    · rw [hw h, if_pos rfl, show years + 1 + YEAR_BASE = years + 2001 by simp only [YEAR_BASE]; omega]
      exact hl (by omega)
    · simp only [unixDays, daysBeforeMonth, YEAR_BASE, DAY_BASE] at hsum ⊢
      by_cases hw' : WRAP_CMP m WRAP_AT = true
      · simp only [hw', if_true] at hsum ⊢; omega
      · simp only [hw', Bool.false_eq_true, if_false] at hsum ⊢; omega

end TM.DateTime
