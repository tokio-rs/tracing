/-
C06 — "Current span, parent and scope mirror each thread's enter/exit history"

  On each thread the registry's notion of the current span is the most recently entered span
  that has not been exited on that thread, independent of every other thread; a span or event
  created without an explicit parent gets that span as parent, an explicit parent or explicit
  root overrides it; and walking a span's scope yields exactly its chain of ancestors from leaf
  to root (the reverse from root), all of whose data stays readable for as long as any
  descendant or captured span trace is alive.

Model: Core/Registry.lean (SpanStack of stack.rs; new_span / enter / exit of sharded.rs; Scope).
-/
import TracingModel.Lemmas.Registry

namespace C06
open TM.Registry

/-- one step of a thread's enter / exit history -/
inductive SOp
  | enter (id : Sid)
  | exit (id : Sid)
deriving Repr

def applyStack (st : List Ctx) : SOp → List Ctx
  | .enter id => (push st id).1
  | .exit id => (pop st id).1

def eraseLast (id : Sid) : List Sid → List Sid
  | [] => []
  | x :: rest => if id ∈ rest then x :: eraseLast id rest else if x = id then rest else x :: rest

/-- specification: the spans entered and not yet exited on the thread, in order of entry; an exit
removes that span (wherever it sits: exits may come in any order) -/
def applySpec (l : List Sid) : SOp → List Sid
  | .enter id => l ++ [id]
  | .exit id => eraseLast id l

/-- the property's exclusion: no span is entered while already entered on the same thread -/
def NoReentry : List Sid → List SOp → Prop
  | _, [] => True
  | l, .enter id :: ops => id ∉ l ∧ NoReentry (l ++ [id]) ops
  | l, .exit id :: ops => NoReentry (eraseLast id l) ops

def mk (id : Sid) : Ctx := ⟨id, false⟩

private theorem any_map_mk (l : List Sid) (id : Sid) : (l.map mk).any (fun c => c.id == id) = decide (id ∈ l) := by
  rw [List.any_map, ← List.contains_eq_mem, ← List.any_beq']; rfl

theorem push_nodup (l : List Sid) (id : Sid) (h : id ∉ l) :
    push (l.map mk) id = ((l ++ [id]).map mk, true) := by
  simp only [push, any_map_mk, h, decide_false, Bool.not_false, List.map_append, List.map_cons, List.map_nil, mk]

theorem eraseLast_eq (id : Sid) (l : List Sid) : eraseLast id l = (l.reverse.erase id).reverse := by
  induction l with
  | nil => rfl
  | cons x rest ih => rw [eraseLast, TM.Lists.eraseLast_cons, ih]

theorem pop_map (l : List Sid) (id : Sid) : (pop (l.map mk) id).1 = (eraseLast id l).map mk := by
  rw [pop_eq, eraseLast_eq, ← List.map_reverse, List.eraseP_map, ← List.map_reverse, List.erase_eq_eraseP']; rfl

theorem current_map (l : List Sid) : current (l.map mk) = l.getLast? := by
  rw [current, List.filter_eq_self.mpr, List.head?_reverse, List.getLast?_map, Option.map_map]
  · cases l.getLast? <;> rfl
  · intro c hc
    obtain ⟨a, _, rfl⟩ := List.mem_map.mp (List.mem_reverse.mp hc)
    rfl

/-- the stack the code keeps IS the specification's list (all entries non-duplicate) -/
theorem stack_is_spec (ops : List SOp) (l : List Sid) (h : NoReentry l ops) :
    ops.foldl applyStack (l.map mk) = (ops.foldl applySpec l).map mk := by
  induction ops generalizing l with
  | nil => rfl
  | cons op ops ih =>
    cases op with
    | enter id =>
      simp only [List.foldl_cons, applyStack, applySpec, push_nodup l id h.1]
      exact ih _ h.2
    | exit id =>
      simp only [List.foldl_cons, applyStack, applySpec, pop_map]
      exact ih _ h

/-- **C06.current_is_last_unexited** — for EVERY per-thread sequence of enters and exits, in any
order (out-of-order exits included), without same-thread re-entry: after every prefix the
registry's current span is the most recently entered span that has not been exited. -/
theorem current_is_last_unexited (ops : List SOp) (h : NoReentry [] ops) :
    current (ops.foldl applyStack []) = (ops.foldl applySpec []).getLast? := by
  have := stack_is_spec ops [] h
  simp only [List.map_nil] at this
  rw [this, current_map]

/-- exiting a span that is entered removes exactly it: everything else keeps its relative order -/
theorem exit_removes_only_it (l : List Sid) (id x : Sid) (hx : x ≠ id) : x ∈ eraseLast id l ↔ x ∈ l := by
  rw [eraseLast_eq, List.mem_reverse, List.mem_erase_of_ne hx, List.mem_reverse]

/-- links the per-thread histories of `current_is_last_unexited` to the registry's `enter` / `exit` -/
theorem enter_exit_stacks (s : RState) (t : Tid) (id : Sid) :
    (enter s t id).stacks = update s.stacks t (applyStack (s.stacks t) (.enter id)) ∧
    (TM.Registry.exit s t id).stacks = update s.stacks t (applyStack (s.stacks t) (.exit id)) := by
  constructor
  · simp only [enter]; split
    · rw [cloneRef_stacks]; rfl
    · rfl
  · simp only [TM.Registry.exit, closeViaDefault]; split
    · split
      · rw [tryClose_stacks]; rfl
      · rfl
    · rfl

/-- **C06.thread_independent** — entering or exiting on thread `t` leaves every other thread's
stack, hence its current span, unchanged (the same span may be entered on several threads) -/
theorem thread_independent (s : RState) (t t' : Tid) (id : Sid) (h : t' ≠ t) :
    (enter s t id).stacks t' = s.stacks t' ∧ (TM.Registry.exit s t id).stacks t' = s.stacks t' := by
  rw [(enter_exit_stacks s t id).1, (enter_exit_stacks s t id).2, update_other h, update_other h]
  exact ⟨rfl, rfl⟩

/-- **C06.parent_resolution** — a new span's stored parent is: nothing for an explicit root, the
given span for an explicit parent, and the thread's current span otherwise -/
theorem parent_resolution (s : RState) (t : Tid) (k : ParentKind) :
    ((newSpan s t k).slots[s.slots.length]?).map (·.parent) =
      some (match k with
            | .root => none
            | .contextual => current (s.stacks t)
            | .explicit p => some p) := by
  simp only [newSpan]
  rw [← refParent_length s (resolveParent s t k)]
  simp only [List.getElem?_concat_length, Option.map_some]
  cases k <;> rfl

/-- **C06.scope_is_ancestor_chain** — walking a scope yields the span itself followed by the scope
of its stored parent: leaf to root along the parent pointers, nothing else -/
theorem scope_is_ancestor_chain (fuel : Nat) (s : RState) (id : Sid) (sl : Slot)
    (h : s.slots[id]? = some sl) (hp : sl.present = true) :
    scope (fuel + 1) s id = id :: (match sl.parent with | some p => scope fuel s p | none => []) := by
  rw [scope]; simp only [h, hp, if_true]
  cases sl.parent <;> rfl

/-- non-vacuity: three spans, the oldest exited first (two positions below the top) -/
example : current ([SOp.enter 0, .enter 1, .enter 2, .exit 0].foldl applyStack []) = some 2 := by decide
example : NoReentry [] [SOp.enter 0, .enter 1, .enter 2, .exit 0, .enter 0] := by simp [NoReentry, eraseLast]

end C06
