/-
C08, trees with subscribers that are not there — the hint an `and_then` tree publishes when it contains `Option::None` layers,
empty `Vec`s and pass-through wrappers (model Core/TreeHint).

* For trees of plain / global-filter / per-layer-filtered layers the richer model IS the one whose soundness is proved
  (`tree_agrees`, hence `stack_hint_sound` applies).
* A `None` layer next to per-layer-filtered layers makes the tree count as NOT per-layer-filtered, and the hint is then unsound:
  `f32_witness` (finding F32).
-/
import TracingModel.Props.C08S
import TracingModel.Core.TreeHint
import TracingModel.Gen.Forwarding

namespace C08
open TM.TreeHint TM.Reload TM.Filtering TM.FilterExpr

def viewOf : Node → View
  | .plain _ => plainV
  | .glob g => globV (hintF g)
  | .filt _ f _ => filtV (hintF f)

theorem viewOf_spec (nd : Node) : (viewOf nd).hint = leafHint nd ∧ (viewOf nd).psf = nd.isFilt ∧ (viewOf nd).none = false := by
  cases nd <;> exact ⟨rfl, rfl, rfl⟩

theorem pick_no_none (o i : View) (ho : o.none = false) (hi : i.none = false) : pick o i = pickHint o.psf i.psf o.hint i.hint := by
  simp only [pick, pickHint, ho, hi, Bool.false_eq_true, if_false, Bool.false_and]
  rfl

/-- **C08.tree_agrees** — on trees without absent subscribers and wrappers the tree-hint model with None operands computes
exactly the hint whose soundness is `stack_hint_sound` -/
theorem tree_agrees (l : List Node) (hl : l ≠ []) :
    treeO (l.map viewOf) = some { hint := hintTree l, psf := l.all Node.isFilt, none := false } := by
  induction l with
  | nil => exact absurd rfl hl
  | cons nd below ih =>
    cases below with
    | nil => cases nd <;> rfl
    | cons b bs =>
      have ihb := ih (by simp)
      obtain ⟨h1, h2, h3⟩ := viewOf_spec nd
      simp only [List.map_cons] at ihb ⊢
      simp only [treeO, ihb, Option.map_some, Option.some.injEq, andThen]
      rw [pick_no_none _ _ h3 rfl]
      simp only [h1, h2, h3, hintTree, List.all_cons, Bool.and_false]

theorem stack_agrees (st : Stack) (hne : st ≠ []) : stackHintV (st.map viewOf) = stackHint st := by
  simp only [stackHintV, stackHint, ← List.map_reverse]
  rw [tree_agrees st.reverse (by simpa using hne)]
  rfl

/-- **C08.f32_witness** — the full statement is false for trees with an absent subscriber next to per-layer-filtered ones
(finding F32): `None.and_then(a.with_filter(ERROR)).and_then(b.with_filter(<no hint>))` publishes ERROR although `b`'s filter
has no upper bound — while without the `None` the same tree publishes no bound -/
theorem f32_witness :
    stackHintV [noneV, filtV (some 1), filtV none] = some 1 ∧
    stackHintV [filtV (some 1), filtV none] = none := by decide

/-- **C08.f33_repaired** — a group of subscribers is "not there" only if ALL its members are (the repair of F33): an empty `Vec`
below the group `plain.and_then(None).and_then(plain)` publishes no bound.  Before the repair the none marker was found in
EITHER branch, the whole group counted as absent and the stack published OFF — silencing two layers that accept everything. -/
theorem f33_repaired :
    (andThen noneV (andThen (andThen plainV noneV) plainV)).hint = none ∧
    (andThen noneV (andThen (andThen plainV noneV) plainV)).none = false := by decide

/-- a `Vec` of subscribers counts as per-layer filtered only if EVERY member does — absent members included (from
subscribe/mod.rs on every run): the enclosing `Layered` decides ONCE, when it is built, how it combines interests, and a member that
is absent then may be switched on later through a reload handle -/
theorem vec_psf_needs_every_member : TM.Gen.Forwarding.vecPsfNeedsEveryMember = true := rfl

end C08
