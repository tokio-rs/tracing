/-
C04 — "Racing callsite registration and collector turnover converge; none is stranded"

  When threads hit callsites for the first time while other threads create, install and drop
  collectors or rebuild the interest cache, no thread deadlocks or panics, every callsite is
  offered to every collector that is live afterwards, and once the activity quiesces every live
  collector receives exactly the emissions its filter accepts - a callsite is never left
  permanently disabled (or the global level left too low) for a collector that wants it. During
  the race an emission is never delivered to a collector whose filter rejects it, and an emission
  that starts after a collector's installation has completed is judged by that collector.

Model: Core/RegRace.lean — a transition system over the lock acquisitions / atomic sections of
callsite.rs and MacroCallsite::register, for ANY number of threads, callsites and collectors and
EVERY interleaving (a history is the sequence of steps in the order the interleaving performed
them).  Whether the read lock of `register` spans compute AND push is the generated fact
`Gen.RegistryLocks.registerHoldsAcrossPush`.
-/
import TracingModel.Lemmas.InterestFold

namespace TM.RegRace

@[simp] theorem update_same {α} {f : Nat → α} {k : Nat} {v : α} : update f k v k = v := if_pos rfl

theorem update_other {α} {f : Nat → α} {k : Nat} {v : α} {x : Nat} (h : x ≠ k) : update f k v x = f x :=
  if_neg h

end TM.RegRace

namespace C04
open TM.RegRace TM.Gen.RegistryLocks
open TM.Callsite (Interest Cs)
open TM.CoreLemmas (fold_congr fold_eq_imp le_foldl_setMax)

/-- what callsite.rs and lib.rs must say NOW (kernel-decided on the regenerated facts) -/
theorem lock_discipline :
    registerHoldsAcrossPush = true ∧ registerOrder = ["read", "compute", "push"] ∧
    registerDispatchOrder = ["write", "notify", "push", "rebuild"] ∧ rebuildCacheOrder = ["write", "rebuild"] ∧
    rebuildInterestOrder = ["retain", "for_each", "set_max"] ∧
    macroCas = true ∧ macroWinnerRegistersThenStores = true ∧ macroLoserSometimes = true ∧ macroRegisteredLoads = true :=
  ⟨rfl, rfl, rfl, rfl, rfl, rfl, rfl, rfl, rfl⟩

/-- the steps of a history mention only callsites of the program -/
def StepIn (U : List Cs) : Step → Prop
  | .cas cs => cs ∈ U | .lock cs => cs ∈ U | .compute cs => cs ∈ U | .push cs => cs ∈ U
  | .unlock cs => cs ∈ U | .done cs => cs ∈ U | _ => True

/-- the part of the invariant that does not speak about the cached values -/
structure WInv (U : List Cs) (s : S) : Prop where
  listed : ∀ cs, cs ∈ s.callsites ↔ (s.phase cs = .pushed ∨ s.phase cs = .released ∨ s.phase cs = .done)
  cached : ∀ cs, s.cache cs ≠ none →
            (s.phase cs = .computed ∨ s.phase cs = .pushed ∨ s.phase cs = .released ∨ s.phase cs = .done)
  nodup : s.callsites.Nodup
  inU : ∀ cs, s.phase cs ≠ .un → cs ∈ U
  noFree : ∀ cs, s.phase cs ≠ .computedFree
  dispUsed : ∀ c ∈ s.disp, c ∈ s.used
  aliveDisp : ∀ c, s.alive c = true → c ∈ s.disp

/-- `basis` says `∃ B`, not `i = fold want cs (live s)`: a collector that dies is not followed by a rebuild, so a cached
interest is the fold over a SUPERSET of today's live collectors — which is all that soundness needs (`FInv.cache_sound`) -/
structure FInv (U : List Cs) (s : S) : Prop extends WInv U s where
  basis : s.dirty = false → ∀ cs i, s.cache cs = some i → ∃ B, i = fold s.want cs B ∧ (∀ c ∈ B, c ∈ s.used) ∧
            ∀ c ∈ s.disp, s.alive c = true → c ∈ B
  level : s.dirty = false → ∀ c ∈ s.disp, s.alive c = true → s.hint c ≤ s.maxLevel

theorem FInv.init (U : List Cs) : FInv U S.init :=
  { listed := fun cs => by simp [S.init]
    cached := fun cs h => (h rfl).elim
    nodup := List.nodup_nil
    inU := fun cs h => (h rfl).elim
    noFree := fun cs h => nomatch h
    dispUsed := fun c h => nomatch h
    aliveDisp := fun c h => nomatch h
    basis := fun _ cs i h => nomatch h
    level := fun _ c h => nomatch h }

theorem fold_congr_want (w w' : Cid → Cs → Interest) (cs : Cs) (B : List Cid) (h : ∀ c ∈ B, w' c cs = w c cs) :
    fold w' cs B = fold w cs B := fold_congr h

/-- a writer section ends with `rebuild_interest`, which establishes the whole invariant —
PROVIDED no registration holds the read lock: that is what makes every callsite that already has
an interest be on the list the rebuild walks -/
theorem rebuild_inv (U : List Cs) (s : S) (h : WInv U s) (hnr : noReaders s U = true) :
    FInv U (rebuild s) := by
  have onList : ∀ cs, s.cache cs ≠ none → cs ∈ s.callsites := by
    intro cs hc
    have hp := h.cached cs hc
    have hU : cs ∈ U := h.inU cs fun e => by rw [e] at hp; exact absurd hp (by decide)
    have hr : (s.phase cs).holdsRead = false := by simpa using List.all_eq_true.mp hnr cs hU
    -- of the phases that have an interest, `computed` and `pushed` hold the read lock; the others are on the list
    rcases hp with e | e | e | e
    · rw [e] at hr; cases hr
    · rw [e] at hr; cases hr
    · exact (h.listed cs).mpr (Or.inr (Or.inl e))
    · exact (h.listed cs).mpr (Or.inr (Or.inr e))
  have hlive : ∀ c, c ∈ live s ↔ c ∈ s.disp ∧ s.alive c = true := fun c => List.mem_filter
  exact { h with
    cached := by
      intro cs hc
      simp only [rebuild] at hc
      split at hc
      · rename_i hin; exact Or.inr ((h.listed cs).mp hin)
      · exact h.cached cs hc
    dispUsed := fun c hc => h.dispUsed c ((hlive c).mp hc).1
    aliveDisp := fun c ha => (hlive c).mpr ⟨h.aliveDisp c ha, ha⟩
    basis := by
      intro _ cs i hi
      simp only [rebuild] at hi
      split at hi
      · exact ⟨live s, (Option.some.inj hi).symm, fun c hc => h.dispUsed c ((hlive c).mp hc).1, fun c hc _ => hc⟩
      · rename_i hin; exact absurd (onList cs (by simp [hi])) hin
    level := fun _ c hc _ => (le_foldl_setMax s.hint (live s) 0).2 c hc }

/-- the frame lemma: a change confined to one callsite's phase, cache entry and list membership keeps `FInv`, given
the invariant's clauses at that callsite -/
theorem reg_step {U : List Cs} {s : S} {cs : Cs} (h : FInv U s) (hU : cs ∈ U) {p' : Phase}
    {cache' : Cs → Option Interest} {cl' : List Cs}
    (hcache : ∀ x, x ≠ cs → cache' x = s.cache x) (hcl : ∀ x, x ≠ cs → (x ∈ cl' ↔ x ∈ s.callsites))
    (hnd : cl'.Nodup)
    (hl : cs ∈ cl' ↔ (p' = .pushed ∨ p' = .released ∨ p' = .done))
    (hc : cache' cs ≠ none → (p' = .computed ∨ p' = .pushed ∨ p' = .released ∨ p' = .done))
    (hf : p' ≠ .computedFree)
    (hb : s.dirty = false → ∀ i, cache' cs = some i → ∃ B, i = fold s.want cs B ∧ (∀ c ∈ B, c ∈ s.used) ∧
            ∀ c ∈ s.disp, s.alive c = true → c ∈ B) :
    FInv U { s with phase := update s.phase cs p', cache := cache', callsites := cl' } :=
  { h with
    listed := by
      intro x
      by_cases e : x = cs
      · subst e; simp only [update_same]; exact hl
      · simp only [update_other e, hcl x e]; exact h.listed x
    cached := by
      intro x hx
      by_cases e : x = cs
      · subst e; simp only [update_same]; exact hc hx
      · simp only [update_other e]; exact h.cached x (hcache x e ▸ hx)
    nodup := hnd
    inU := by
      intro x hx
      by_cases e : x = cs
      · exact e ▸ hU
      · simp only [update_other e] at hx; exact h.inU x hx
    noFree := by
      intro x
      by_cases e : x = cs
      · subst e; simp only [update_same]; exact hf
      · simp only [update_other e]; exact h.noFree x
    basis := by
      intro hd x i hi
      by_cases e : x = cs
      · subst e; exact hb hd i hi
      · exact h.basis hd x i (hcache x e ▸ hi) }

theorem phase_step {U : List Cs} {s : S} {cs : Cs} {p' : Phase} (h : FInv U s) (hU : cs ∈ U)
    (hl : (p' = .pushed ∨ p' = .released ∨ p' = .done) ↔
          (s.phase cs = .pushed ∨ s.phase cs = .released ∨ s.phase cs = .done))
    (hc : s.cache cs ≠ none → (p' = .computed ∨ p' = .pushed ∨ p' = .released ∨ p' = .done))
    (hf : p' ≠ .computedFree) : FInv U { s with phase := update s.phase cs p' } :=
  reg_step h hU (fun _ _ => rfl) (fun _ _ => Iff.rfl) h.nodup ((h.listed cs).trans hl.symm) hc hf
    (fun hd => h.basis hd cs)

/-- every enabled step of every thread preserves the invariant (with the lock discipline of the code) -/
theorem step_inv (U : List Cs) (s s' : S) (st : Step) (h : FInv U s) (hin : StepIn U st)
    (hs : step true U s st = some s') : FInv U s' := by
  cases st with
  | cas cs | lock cs =>
    obtain ⟨hp, rfl⟩ := Option.ite_some_none_eq_some.mp hs
    exact phase_step h hin (by simp [hp]) (fun hc => by simpa [hp] using h.cached cs hc) (by simp)
  | compute cs =>
    obtain ⟨hp, rfl⟩ := Option.ite_some_none_eq_some.mp hs
    refine reg_step h hin (fun x e => update_other e) (fun _ _ => Iff.rfl) h.nodup
      (by simp [h.listed, hp]) (by simp) (by simp) fun _ i hi => ?_
    simp only [update_same, Option.some.injEq] at hi
    exact ⟨live s, hi.symm, fun c hc => h.dispUsed c (List.mem_filter.mp hc).1,
      fun c hc ha => List.mem_filter.mpr ⟨hc, ha⟩⟩
  | push cs =>
    simp only [step] at hs
    split at hs
    · rename_i hp; cases hs
      have hnot : cs ∉ s.callsites := fun hc => by simpa [hp] using (h.listed cs).mp hc
      exact reg_step h hin (fun _ _ => rfl) (fun x e => by simp [e])
        (List.nodup_cons.mpr ⟨hnot, h.nodup⟩) (by simp) (by simp) (by simp) (fun hd => h.basis hd cs)
    · split at hs
      · rename_i hp; exact absurd hp (h.noFree cs)
      · cases hs
  | unlock cs | done cs =>
    obtain ⟨hp, rfl⟩ := Option.ite_some_none_eq_some.mp hs
    exact phase_step h hin (by simp [hp]) (by simp) (by simp)
  | newDispatch c w hn =>
    obtain ⟨hc, rfl⟩ := Option.ite_some_none_eq_some.mp hs
    refine rebuild_inv U _ { h.toWInv with dispUsed := ?_, aliveDisp := ?_ } hc.1
    · intro x hx
      rcases List.mem_append.mp hx with hx | hx
      · exact List.mem_cons_of_mem _ (h.dispUsed x hx)
      · exact List.mem_singleton.mp hx ▸ List.mem_cons_self ..
    · intro x ha
      by_cases e : x = c
      · exact List.mem_append_right _ (e ▸ List.mem_singleton_self c)
      · exact List.mem_append_left _ (h.aliveDisp x (by simpa only [update_other e] using ha))
  | rebuildCache =>
    obtain ⟨hnr, rfl⟩ := Option.ite_some_none_eq_some.mp hs
    exact rebuild_inv U s h.toWInv hnr
  | dropCollector c =>
    cases hs
    -- fewer collectors are live: every obligation about live collectors gets weaker
    have hmono : ∀ x, update s.alive c false x = true → s.alive x = true := by
      intro x ha
      by_cases e : x = c
      · subst e; simp only [update_same] at ha; cases ha
      · rwa [update_other e] at ha
    exact { h with
      aliveDisp := fun x ha => h.aliveDisp x (hmono x ha)
      basis := fun hd cs i hi =>
        let ⟨B, hB, hu, hm⟩ := h.basis hd cs i hi
        ⟨B, hB, hu, fun x hx ha => hm x hx (hmono x ha)⟩
      level := fun hd x hx ha => h.level hd x hx (hmono x ha) }
  | mutate c w hn =>
    obtain ⟨_, rfl⟩ := Option.ite_some_none_eq_some.mp hs
    exact { h with basis := fun hd => (nomatch hd), level := fun hd => (nomatch hd) }

/-- **C04.inv_reachable** — the invariant holds after EVERY interleaving: any finite sequence of steps
by any number of threads over the callsites `U` (blocked steps do not happen) -/
theorem inv_reachable (U : List Cs) (steps : List Step) (hin : ∀ st ∈ steps, StepIn U st) (s : S) (h : FInv U s) :
    FInv U (run true U s steps) := by
  induction steps generalizing s with
  | nil => exact h
  | cons st rest ih =>
    obtain ⟨hst, hrest⟩ := List.forall_mem_cons.mp hin
    refine ih hrest _ ?_
    cases hs : step true U s st with
    | none => exact h
    | some s' => exact step_inv U s s' st h hst hs

/-- what the code does: the model instantiated with the lock scope extracted from callsite.rs -/
def runCode (U : List Cs) (steps : List Step) : S := run registerHoldsAcrossPush U S.init steps

theorem FInv.cache_sound {U : List Cs} {s : S} (h : FInv U s) (hclean : s.dirty = false) {c : Cid} {cs : Cs}
    {v : Interest} (ha : s.alive c = true) (hv : v ≠ .sometimes) (hc : s.cache cs = some v) : s.want c cs = v := by
  obtain ⟨B, hB, _, hm⟩ := h.basis hclean cs v hc
  exact fold_eq_imp hv (hm c (h.aliveDisp c ha) ha) hB.symm

theorem runCode_inv {U : List Cs} {steps : List Step} (hin : ∀ st ∈ steps, StepIn U st) : FInv U (runCode U steps) := by
  unfold runCode; rw [lock_discipline.1]; exact inv_reachable U steps hin _ (FInv.init U)

/-- **C04.never_stranded** — after EVERY interleaving (not only at quiescence), for the real lock
discipline: whatever interest a callsite has cached, every collector that is live NOW was asked —
`never` only if every live collector said never (no collector that wants the callsite is left with
it disabled), `always` only if every live collector said always (no emission bypasses a filter that
would reject it) — and MAX_LEVEL is not below any live collector's hint.  `dirty = false`: no
reload is between its mutate and its rebuild (a reload that has RETURNED has rebuilt: C12) -/
theorem never_stranded (U : List Cs) (steps : List Step) (hin : ∀ st ∈ steps, StepIn U st)
    (hclean : (runCode U steps).dirty = false) :
    let s := runCode U steps
    (∀ cs c, s.alive c = true →
        (s.cache cs = some .never → s.want c cs = .never) ∧ (s.cache cs = some .always → s.want c cs = .always)) ∧
    (∀ c, s.alive c = true → s.hint c ≤ s.maxLevel) := by
  have hI := runCode_inv hin
  exact ⟨fun cs c ha => ⟨hI.cache_sound hclean ha (by decide), hI.cache_sound hclean ha (by decide)⟩,
    fun c ha => hI.level hclean c (hI.aliveDisp c ha) ha⟩

/-- every collector's answers are static unless a reload changes them; a rebuild — the last step
of every `Handle::modify`, of every `Dispatch::new` and of `rebuild_interest_cache` — makes the
state clean again, whatever registrations are in flight -/
theorem rebuild_cleans (b : Bool) (U : List Cs) (s s' : S) (h : step b U s .rebuildCache = some s') : s'.dirty = false := by
  obtain ⟨_, rfl⟩ := Option.ite_some_none_eq_some.mp h
  rfl

/-- **C04.no_panic** — the self-link assertion of `LinkedList::push` cannot fire: no callsite is pushed twice -/
theorem no_panic (U : List Cs) (steps : List Step) (hin : ∀ st ∈ steps, StepIn U st) :
    (runCode U steps).callsites.Nodup :=
  (runCode_inv hin).nodup

/-- **C04.no_stuck** — nobody waits forever: every registration in flight can take its next step
whatever the others do (readers never wait: writers are atomic sections), and a writer can enter as
soon as no registration holds the read lock, which every one of them releases within three of its
own steps -/
theorem no_stuck (U : List Cs) (s : S) (cs : Cs) :
    (s.phase cs = .won → (step true U s (.lock cs)).isSome) ∧
    (s.phase cs = .locked → (step true U s (.compute cs)).isSome) ∧
    (s.phase cs = .computed → (step true U s (.push cs)).isSome) ∧
    (s.phase cs = .pushed → (step true U s (.unlock cs)).isSome) ∧
    (s.phase cs = .released → (step true U s (.done cs)).isSome) ∧
    (noReaders s U = true → (step true U s .rebuildCache).isSome) := by
  refine ⟨?_, ?_, ?_, ?_, ?_, ?_⟩ <;> intro h <;> simp [step, h]

/-- **C04.mutant_witness** — the theorem is about the lock scope: if `register` released the read lock
before the push (`holdAcross = false`), this two-thread schedule strands callsite 0: thread A
computes its interest (nobody there: never) and is preempted; thread B creates collector 1, which
wants it; A pushes.  At quiescence collector 1 is live, wants callsite 0, and its cached interest
is `never` for good. -/
theorem mutant_witness :
    let sched := [Step.cas 0, .lock 0, .compute 0, .newDispatch 1 (fun _ => .always) 5, .push 0, .unlock 0, .done 0]
    let bad := run false [0] S.init sched
    let good := run true [0] S.init sched
    quiescent bad [0] = true ∧ bad.alive 1 = true ∧ bad.want 1 0 = .always ∧ bad.cache 0 = some .never ∧
    quiescent good [0] = true ∧ good.cache 0 = some .never ∧ good.alive 1 = false := by
  decide

end C04
