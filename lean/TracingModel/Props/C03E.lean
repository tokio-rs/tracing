/-
C03, the enter/exit clause — "every enter matched by one exit on the same thread".

For every span, every thread and every finite program over the Span API: the number of `enter`
calls minus the number of `exit` calls the collector has seen for that span on that thread equals
the number of entered guards of that span living on that thread — never negative (no exit without
its enter), zero as soon as no guard is left (every enter matched), and `in_scope`, polls and
future drops contribute balanced pairs.

This is the conservation law of C03 for the weight `wEB`, which counts the guards of one span on one thread;
the theorems of the clause follow the analysis of `step` in C03S.
-/
import TracingModel.Props.C03

namespace C03
open TM.SpanHandle

/-- +1 for an `enter` of span `r` on thread `t`, −1 for an `exit` -/
def ne (r : Ref) (t : Tid) : Call → Int
  | .enter c id t' => if (c, id) = r ∧ t' = t then 1 else 0
  | .exit c id t' => if (c, id) = r ∧ t' = t then -1 else 0
  | _ => 0

def ebal (r : Ref) (t : Tid) (log : List Call) : Int := (log.map (ne r t)).sum

def gholds (r : Ref) (t : Tid) (o : Owner) : Int := if o.kind = .guard t ∧ o.ref = some r then 1 else 0

/-- number of entered guards of span `r` that live on thread `t` -/
def gown (r : Ref) (t : Tid) (l : List Owner) : Int := (l.map (gholds r t)).sum

theorem ebal_append (r : Ref) (t : Tid) (log : List Call) (c : Call) : ebal r t (log ++ [c]) = ebal r t log + ne r t c := by
  simp [ebal, List.sum_append]

def wEB (q : Ref) (u : Tid) : OwnerKind → Option Ref → Int := fun k r => if k = .guard u ∧ r = some q then 1 else 0

theorem weight_eb (q : Ref) (u : Tid) : Weight (wEB q u) := ⟨fun _ => by simp [wEB], fun _ => by simp [wEB]⟩

theorem wEB_nonneg (q : Ref) (u : Tid) (k : OwnerKind) (r : Option Ref) : 0 ≤ wEB q u k r := by
  unfold wEB; split <;> omega

theorem wEB_le_wRC (q : Ref) (u : Tid) (k : OwnerKind) (r : Option Ref) : wEB q u k r ≤ wRC q k r := by
  unfold wEB wRC; split
  · next h => simp [h.2]
  · split <;> omega

theorem ebal_eq (q : Ref) (u : Tid) : ebal q u = lsum (wEB q u) := by
  have : ne q u = cw (wEB q u) := by
    funext c
    cases c with
    | exit c id t =>
      simp only [ne, cw, wEB, OwnerKind.guard.injEq, Option.some.injEq, reduceCtorEq, false_and, if_false, Int.zero_sub,
        and_comm]
      split <;> rfl
    | _ => simp [ne, cw, wEB, and_comm]
  funext l; rw [ebal, lsum, this]

theorem gown_eq (q : Ref) (u : Tid) : gown q u = osum (wEB q u) := rfl

theorem doEnter_ebal (q : Ref) (s : PState) (t : Tid) : ebal q t (doEnter s (some q) t).log = ebal q t s.log + 1 := by
  rw [ebal_eq, doEnter_log, lsum_append, lsum_enterCalls (weight_eb q t)]; simp [wEB]

theorem dropHandle_ebal (q : Ref) (t : Tid) (s : PState) (k : Key) : ebal q t (dropHandle s k).log = ebal q t s.log := by
  unfold dropHandle
  split
  · split
    · rw [ebal_eq, doClose_log, lsum_append, lsum_closeCalls (weight_eb q t)]; simp [wEB]
    · rfl
  · rfl

theorem gown_cons (r : Ref) (t : Tid) (o : Owner) (l : List Owner) : gown r t (o :: l) = gholds r t o + gown r t l :=
  osum_cons (w := wEB r t) o l

theorem take_gown (r : Ref) (t : Tid) {k : Key} {l : List Owner} {o : Owner} {rest : List Owner}
    (h : take k l = some (o, rest)) : gown r t l = gholds r t o + gown r t rest :=
  take_osum (w := wEB r t) h

theorem gown_nonneg (r : Ref) (t : Tid) (l : List Owner) : 0 ≤ gown r t l :=
  osum_nonneg (wEB_nonneg r t) l

theorem gown_pos_of_mem {q : Ref} {t : Tid} {o : Owner} {l : List Owner} (hm : o ∈ l) (hk : o.kind = .guard t)
    (hq : o.ref = some q) : 1 ≤ gown q t l := by
  have := le_osum_of_mem (wEB_nonneg q t) hm
  rw [gown_eq]; simpa [wEB, hq, hk] using this

def EB (s : PState) : Prop := ∀ (r : Ref) (t : Tid), ebal r t s.log = gown r t s.owners

theorem EB.init (acc : Cid → Nat → Bool) : EB (PState.init acc) := by intro r t; rfl

/-- non-vacuity: two guards of one span on two threads, an out-of-order drop, an in_scope and a polled future -/
example :
    let s := run (PState.init (fun _ _ => true))
      [.setDefault 0 (some 1), .newSpan 0 0 3, .clone 0 3, .enter 0 0 1, .enter 1 3 4, .newSpan 0 6 3, .inScope 1 6,
       .instrument 6 2, .poll 1 2, .dropGuard 1]
    ebal (1, 1) 0 s.log = 0 ∧ ebal (1, 1) 1 s.log = 1 ∧ ebal (1, 2) 1 s.log = 0 ∧ s.log.length ≥ 10 := by decide

end C03
