/-
C01 — "Caches never change what a collector's own filter decides"

  A span or event emitted through the macros is delivered to the emitting thread's current
  collector if and only if that collector's own filter accepts the callsite at that moment (it
  answered 'always' for the callsite, or 'sometimes' and its dynamic check returns true). The
  process-wide shortcuts in front of the collector (per-callsite cached interest, global maximum
  level, compile-time maximum level) may only skip work: they never suppress a delivery the
  collector would accept and never cause one it would reject, no matter which other collectors
  were created, dropped or re-evaluated before.

Model: Core/Callsite.lean on Core/Dispatch.lean (hand-written from callsite.rs, lib.rs,
macros.rs; tied to the code by the correspondence stream of ./check C01).
Specification: Spec/CoreSpec.lean (no caches, no counters).
-/
import TracingModel.Lemmas.CallsiteRefine
import TracingModel.Gen.MacroGuards

namespace C01
open TM.Dispatch TM.Callsite TM.Spec.CoreSpec TM.CoreLemmas

/-- **C01.delivery_iff** — in every state satisfying the invariant (i.e. every reachable state,
`inv_reachable`), for every thread, every callsite — including one hit for the first time — the
macro guard hands the emission to the thread's current collector exactly when the
specification says so: level ≤ STATIC and the current collector's own filter accepts the
callsite now.  `sp` is the specification state the history has produced so far. -/
theorem delivery_iff (st : Nat) (lvl : Cs → Nat) (s : CState) (sp : SState) (t : Tid) (cs : Cs)
    (hi : Inv lvl s) (hr : DRel s sp) (ht : t < s.nthreads) :
    (if (emit st lvl s t cs).2 then current (emit st lvl s t cs).1.d t else none)
      = delivered st lvl sp t cs := by
  have _ := ht   -- not needed
  exact TM.Refine.delivery_iff hi hr st t cs

/-- **C01.inv_reachable** — the invariant (every cached interest is the `Interest::and` fold over a
basis containing every live collector; MAX_LEVEL bounds every live collector's hint; …) holds in
every state reachable by any finite history whose collectors have self-consistent filters -/
theorem inv_reachable (st : Nat) (lvl : Cs → Nat) (ops : List Op) (hsc : ∀ op ∈ ops, OpSC lvl op) :
    Inv lvl (TM.Callsite.run st lvl CState.init ops).1 :=
  run_inv (Inv.init lvl) st hsc

/-- **C01.refines_spec** — for EVERY finite history (any number of threads, collectors and
callsites, any order of creation, drop, install/uninstall, global install, first hits, rebuilds and
dynamic flips) the model produces exactly the outputs of the cache-free specification: every
emission is delivered to the emitting thread's current collector iff level ≤ STATIC and that
collector accepts it at that moment. -/
theorem refines_spec (st : Nat) (lvl : Cs → Nat) (ops : List Op) (hsc : ∀ op ∈ ops, OpSC lvl op) :
    (TM.Callsite.run st lvl CState.init ops).2 = (TM.Spec.CoreSpec.run st lvl SState.init ops).2 :=
  TM.Refine.refines_spec st lvl ops hsc _ _ (Inv.init lvl) DRel.init

/-- **C01.never_suppresses** — a delivery the current collector would accept is never skipped -/
theorem never_suppresses (st : Nat) (lvl : Cs → Nat) (s : CState) (sp : SState) (t : Tid) (cs : Cs) (c : Cid)
    (hi : Inv lvl s) (hr : DRel s sp) (ht : t < s.nthreads)
    (hcur : currentCollector sp t = some c) (hc0 : c ≠ 0) (hl : lvl cs ≤ st) (hacc : accepts (sp.filt c) cs = true) :
    (emit st lvl s t cs).2 = true ∧ current (emit st lvl s t cs).1.d t = some c := by
  have _ := And.intro ht hc0   -- not needed: `ht` is not used, `hc0` follows from the invariant (`Inv.current_live`)
  have hc : current s.d t = some c := (hr.current_eq t).trans hcur
  obtain ⟨_, _, e⟩ := emit_fst st lvl s t cs
  exact ⟨(TM.Refine.guard_iff hi hc st cs).mpr ⟨hl, hr.filt ▸ hacc⟩, by rw [e]; exact hc⟩

/-- **C01.never_causes** — nothing the current collector's filter rejects is ever delivered -/
theorem never_causes (st : Nat) (lvl : Cs → Nat) (s : CState) (sp : SState) (t : Tid) (cs : Cs) (c : Cid)
    (hi : Inv lvl s) (hr : DRel s sp) (ht : t < s.nthreads)
    (hcur : currentCollector sp t = some c) (hrej : accepts (sp.filt c) cs = false) :
    (if (emit st lvl s t cs).2 then current (emit st lvl s t cs).1.d t else none) = none := by
  have _ := ht   -- not needed
  have hc : current s.d t = some c := (hr.current_eq t).trans hcur
  refine if_neg fun hg => ?_
  have hacc := ((TM.Refine.guard_iff hi hc st cs).mp hg).2
  rw [hr.filt, hrej] at hacc; cases hacc

/-- every copy of the filtering guard in `span!`, `event!` and `enabled!` (9 arms) has the
canonical shape the model's `emit` implements; regenerated from tracing/src/macros.rs -/
theorem macro_guard_shape : TM.Gen.MacroGuards.allCanonical = true := by decide +kernel

/-- non-vacuity: a concrete history in which a second collector turns a cached `always` into
`sometimes`, the first is dropped without a rebuild, and deliveries follow the current one -/
example :
    let lvl : Cs → Nat := fun cs => cs / 6 + 1
    let all : Filt := { stat := fun _ => .always, dyn := fun _ => true, hint := none }
    let errOnly : Filt := { stat := fun cs => if cs / 6 + 1 ≤ 1 then .always else .never, dyn := fun _ => false, hint := some 1 }
    (TM.Callsite.run 5 lvl CState.init
      [.newCollector 1 all, .setDefault 0 1, .emit 0 20, .newCollector 2 errOnly, .emit 0 20,
       .popDefault 0, .setDefault 0 2, .dropHandle 1, .emit 0 20, .emit 0 0]).2
    = [.none, .none, .delivered 0 20 (some 1), .none, .delivered 0 20 (some 1),
       .none, .none, .none, .delivered 0 20 none, .delivered 0 0 (some 2)] := by decide

end C01
