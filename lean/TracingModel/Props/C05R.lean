/-
C05, the reference-count sum — "closed … at the moment the last handle to it has been dropped, it is
no longer entered on any thread, and all of its children have closed - never earlier".

For every history of create / clone / drop / enter / exit on any threads (each thread's default being
the registry's own collector — the other case is finding F2), at every point and for every span that
is still in the registry:

    stored reference count  =  handles the program holds  +  threads it is entered on  +  children still open

and a span that has left the registry has none of the three.  Hence a span is reported closed exactly
when the last of them goes: never while a handle, an entered guard or an open child remains
(`closed_means_nothing_left`), and it does not linger once they are all gone (`nothing_left_means_gone`).
-/
import TracingModel.Props.C05

namespace C05
open TM.Registry TM.Lists

/-- non-duplicate entries of `id` on one thread's stack (0 or 1 in reachable states) -/
def cnt (st : List Ctx) (id : Sid) : Nat := st.countP (fun c => c.id == id && !c.duplicate)

/-- on how many threads (of the finite set `ths` the history uses) the span is entered -/
def entered (ths : List Tid) (s : RState) (id : Sid) : Nat := (ths.map (fun t => cnt (s.stacks t) id)).sum

/-- how many spans still in the registry name `id` as their parent -/
def children (s : RState) (id : Sid) : Nat := s.slots.countP (fun sl => sl.present && sl.parent == some id)

/-- how many handles the program holds (ghost state: one per creation and per clone, minus one per drop) -/
def handles (h : List Nat) (id : Sid) : Nat := h.getD id 0

def expect (ths : List Tid) (s : RState) (h : List Nat) (id : Sid) : Nat :=
  handles h id + entered ths s id + children s id

theorem sum_map_same (ths : List Tid) (f g : Tid → Nat) (h : ∀ t ∈ ths, f t = g t) : (ths.map f).sum = (ths.map g).sum := by
  rw [List.map_congr_left h]

theorem cnt_push (st : List Ctx) (id j : Sid) :
    cnt (push st id).1 j = cnt st j + (if id = j ∧ (push st id).2 = true then 1 else 0) := by
  simp [cnt, push, List.countP_append, List.countP_singleton]

theorem cnt_pop (st : List Ctx) (id j : Sid) :
    cnt (pop st id).1 j + (if id = j ∧ (pop st id).2 = true then 1 else 0) = cnt st j := by
  rw [pop_eq, cnt, cnt, List.countP_reverse, ← List.countP_reverse (l := st),
    ← countP_eraseP_add (·.id == id) _ st.reverse]
  cases h : st.reverse.find? (·.id == id) with
  | none => simp
  | some c =>
    have : c.id = id := by simpa using List.find?_some h
    simp [this]

theorem cnt_pos_of_mem {st : List Ctx} {c : Ctx} (h : c ∈ st) (hd : c.duplicate = false) : 1 ≤ cnt st c.id :=
  List.countP_pos_iff.mpr ⟨c, h, by simp [hd]⟩

theorem entered_update {ths : List Tid} (hnd : ths.Nodup) (s : RState) {t : Tid} (ht : t ∈ ths) (st' : List Ctx) (j : Sid) :
    entered ths { s with stacks := update s.stacks t st' } j + cnt (s.stacks t) j = entered ths s j + cnt st' j := by
  have := TM.Threads.sum_map_upd hnd (f := fun u => cnt (s.stacks u) j) (f' := fun u => cnt (update s.stacks t st' u) j) ht
    (fun u hu => by rw [update_other hu])
  rwa [update_same] at this

def isChildOf (j : Sid) (sl : Slot) : Bool := sl.present && sl.parent == some j

/-- `children s j` is `countP (isChildOf j)` by unfolding -/
theorem children_setSlot (s : RState) (i : Sid) (new old : Slot) (h : s.slots[i]? = some old) (j : Sid) :
    children (setSlot s i new) j + (if isChildOf j old then 1 else 0) = children s j + (if isChildOf j new then 1 else 0) :=
  countP_set (isChildOf j) h new

theorem entered_setSlot (ths : List Tid) (s : RState) (i : Sid) (sl : Slot) (j : Sid) :
    entered ths (setSlot s i sl) j = entered ths s j := rfl

theorem isChildOf_false_of_absent (j : Sid) (sl : Slot) (h : sl.present = false) : isChildOf j sl = false := by
  simp [isChildOf, h]

/-- the accounting invariant, with at most one span (`x`) holding one reference too many: a reference in flight, which
`clone_span` has added and nothing accounts for yet, or which `try_close` is about to take away (`pres` keeps `1 ≤ refs`
beside the equation: it is what `clone_span` asserts at every bump, `cloneRef_eq`) -/
structure RAcc (ths : List Tid) (s : RState) (h : List Nat) (x : Option Sid) : Prop where
  len : h.length = s.slots.length
  pres : ∀ (id : Sid) (sl : Slot), s.slots[id]? = some sl → sl.present = true →
      sl.refs = expect ths s h id + (if x = some id then 1 else 0) ∧ 1 ≤ sl.refs
  gone : ∀ (id : Sid) (sl : Slot), s.slots[id]? = some sl → sl.present = false →
      expect ths s h id = 0 ∧ x ≠ some id ∧ sl.refs = 0 ∧ sl.parent = none
  par : ∀ (id : Sid) (sl : Slot) (p : Sid), s.slots[id]? = some sl → sl.parent = some p → p < id
  stk : ∀ (t : Tid) (c : Ctx), c ∈ s.stacks t → c.id < s.slots.length
  own : ∀ t, s.dflt t = .own
  thr : ∀ t, t ∉ ths → s.stacks t = []
  xin : ∀ (id : Sid), x = some id → ∃ sl : Slot, s.slots[id]? = some sl ∧ sl.present = true

theorem RAcc.init (ths : List Tid) : RAcc ths RState.init [] none :=
  ⟨rfl, by simp [RState.init], by simp [RState.init], by simp [RState.init], by simp [RState.init],
   fun _ => rfl, fun _ _ => rfl, by intro id h; cases h⟩

/-- `c`: the number of references claimed on the slot -/
structure SlotOK (c : Nat) (j : Sid) (sl : Slot) : Prop where
  refs : sl.refs = c
  live : sl.present = true → 1 ≤ c
  dead : sl.present = false → c = 0 ∧ sl.parent = none
  par : ∀ p, sl.parent = some p → p < j

theorem SlotOK.present_of_pos {c : Nat} {j : Sid} {sl : Slot} (k : SlotOK c j sl) (hc : 1 ≤ c) : sl.present = true := by
  cases hp : sl.present with
  | true => rfl
  | false => have := (k.dead hp).1; omega

namespace RAcc
variable {ths : List Tid} {s : RState} {h : List Nat} {x : Option Sid}

/-- `pres`, `gone` and `par` as one statement about every slot -/
theorem slot (a : RAcc ths s h x) {j : Sid} {sl : Slot} (hs : s.slots[j]? = some sl) :
    SlotOK (expect ths s h j + (if x = some j then 1 else 0)) j sl := by
  cases hp : sl.present with
  | true =>
    obtain ⟨r1, r2⟩ := a.pres j sl hs hp
    exact ⟨r1, fun _ => r1 ▸ r2, fun e => (by rw [hp] at e; cases e), fun p => a.par j sl p hs⟩
  | false =>
    obtain ⟨g1, g2, g3, g4⟩ := a.gone j sl hs hp
    exact ⟨by rw [g1, g3, if_neg g2], fun e => (by rw [hp] at e; cases e), fun _ => ⟨by rw [g1, if_neg g2], g4⟩,
      fun p => a.par j sl p hs⟩

theorem of_slots (len : h.length = s.slots.length)
    (slot : ∀ (j : Sid) (sl : Slot), s.slots[j]? = some sl → SlotOK (expect ths s h j + (if x = some j then 1 else 0)) j sl)
    (stk : ∀ (t : Tid) (c : Ctx), c ∈ s.stacks t → c.id < s.slots.length) (own : ∀ t, s.dflt t = .own)
    (thr : ∀ t, t ∉ ths → s.stacks t = []) (xlt : ∀ j, x = some j → j < s.slots.length) : RAcc ths s h x := by
  refine ⟨len, fun j sl hs hp => ?_, fun j sl hs hp => ?_, fun j sl p hs => (slot j sl hs).par p, stk, own, thr, fun j hj => ?_⟩
  · have k := slot j sl hs
    exact ⟨k.refs, k.refs ▸ k.live hp⟩
  · have k := slot j sl hs
    obtain ⟨k1, k2⟩ := k.dead hp
    refine ⟨by omega, fun e => ?_, k.refs.trans k1, k2⟩
    rw [if_pos e] at k1; omega
  · have hs := List.getElem?_eq_getElem (xlt j hj)
    exact ⟨_, hs, (slot j _ hs).present_of_pos (by rw [if_pos hj]; omega)⟩

theorem expect_eq_zero (a : RAcc ths s h x) {j : Sid} (hj : s.slots.length ≤ j) : expect ths s h j = 0 := by
  have h1 : handles h j = 0 := by
    simp [handles, List.getD_eq_getElem?_getD, List.getElem?_eq_none (a.len ▸ hj)]
  have h2 : entered ths s j = 0 := by
    refine List.sum_eq_zero_iff_forall_eq_nat.mpr fun v hv => ?_
    obtain ⟨t, _, rfl⟩ := List.mem_map.mp hv
    refine List.countP_eq_zero.mpr fun c hc => ?_
    have : c.id ≠ j := Nat.ne_of_lt (Nat.lt_of_lt_of_le (a.stk t c hc) hj)
    simp [this]
  have h3 : children s j = 0 := by
    refine List.countP_eq_zero.mpr fun sl hsl hc => ?_
    obtain ⟨i, hi⟩ := List.getElem?_of_mem hsl
    simp only [Bool.and_eq_true, beq_iff_eq] at hc
    exact Nat.lt_irrefl _ (Nat.lt_of_lt_of_le (Nat.lt_trans (a.par i sl j hi hc.2) (lt_of_getElem? hi)) hj)
  simp only [expect, h1, h2, h3]

theorem present_of_claimed (a : RAcc ths s h x) {j : Sid} (hc : 1 ≤ expect ths s h j + (if x = some j then 1 else 0)) :
    ∃ sl : Slot, s.slots[j]? = some sl ∧ sl.present = true := by
  by_cases e : x = some j
  · exact a.xin j e
  · have hj : j < s.slots.length := Nat.lt_of_not_le fun hj => by
      have := a.expect_eq_zero hj
      rw [if_neg e] at hc
      omega
    have hs := List.getElem?_eq_getElem hj
    exact ⟨_, hs, (a.slot hs).present_of_pos hc⟩

theorem lt_of_claimed (a : RAcc ths s h x) {j : Sid} (hc : 1 ≤ expect ths s h j + (if x = some j then 1 else 0)) :
    j < s.slots.length :=
  (a.present_of_claimed hc).elim fun _ hs => lt_of_getElem? hs.1

theorem present_of_handle (a : RAcc ths s h none) {id : Sid} (hp : 1 ≤ handles h id) :
    ∃ sl : Slot, s.slots[id]? = some sl ∧ sl.present = true :=
  a.present_of_claimed (Nat.le_trans hp (by unfold expect; omega))

theorem present_of_entered (a : RAcc ths s h none) {t : Tid} (ht : t ∈ ths) {id : Sid} (hc : 1 ≤ cnt (s.stacks t) id) :
    ∃ sl : Slot, s.slots[id]? = some sl ∧ sl.present = true := by
  have : cnt (s.stacks t) id ≤ entered ths s id := TM.Threads.le_sum_map (fun u => cnt (s.stacks u) id) ht
  exact a.present_of_claimed (by unfold expect; omega)

/-- One slot is overwritten and the reference in flight changes hands.  `hi`, `ho`: what the new slot and the new holder
claim on each span, against what the old ones did; at `i` itself the stored count moves by the same amount. -/
theorem overwrite (a : RAcc ths s h x) {i : Sid} {old : Slot} (hs : s.slots[i]? = some old) (new : Slot)
    (x' : Option Sid) (live : new.present = true → 1 ≤ new.refs) (dead : new.present = false → new.refs = 0 ∧ new.parent = none)
    (par : ∀ p, new.parent = some p → p < i)
    (hi : (if x' = some i then 1 else 0) + (if isChildOf i new then 1 else 0) + old.refs =
          (if x = some i then 1 else 0) + (if isChildOf i old then 1 else 0) + new.refs)
    (ho : ∀ j, j ≠ i → (if x' = some j then 1 else 0) + (if isChildOf j new then 1 else 0) =
                       (if x = some j then 1 else 0) + (if isChildOf j old then 1 else 0)) :
    RAcc ths (setSlot s i new) h x' := by
  have key : ∀ j, expect ths (setSlot s i new) h j + (if isChildOf j old then 1 else 0) =
      expect ths s h j + (if isChildOf j new then 1 else 0) := fun j => by
    have := children_setSlot s i new old hs j
    show handles h j + entered ths s j + children (setSlot s i new) j + _ = handles h j + entered ths s j + children s j + _
    omega
  refine of_slots (a.len.trans (length_setSlot s i new).symm) (fun j sl hj => ?_)
    (fun t c hc => (length_setSlot s i new).symm ▸ a.stk t c hc) a.own a.thr (fun j e => ?_)
  · rw [getElem?_setSlot hs] at hj
    have := key j
    split at hj
    · cases hj
      subst j
      have := (a.slot hs).refs
      rw [show expect ths _ h i + (if x' = some i then 1 else 0) = new.refs by omega]
      exact ⟨rfl, live, dead, par⟩
    · rw [show expect ths _ h j + (if x' = some j then 1 else 0) = expect ths s h j + (if x = some j then 1 else 0) by
        have := ho j ‹_›; omega]
      exact a.slot hj
  · rw [length_setSlot]
    by_cases ej : j = i
    · exact ej ▸ lt_of_getElem? hs
    · refine a.lt_of_claimed ?_
      have h1 := ho j ej
      have := key j
      rw [if_pos e] at h1; omega

theorem setRefs (a : RAcc ths s h x) {i : Sid} {old : Slot} (hs : s.slots[i]? = some old) (hp : old.present = true)
    (r : Nat) (x' : Option Sid) (h1 : 1 ≤ r)
    (hi : (if x' = some i then 1 else 0) + old.refs = (if x = some i then 1 else 0) + r)
    (ho : ∀ j, j ≠ i → (x' = some j ↔ x = some j)) : RAcc ths (setSlot s i { old with refs := r }) h x' :=
  a.overwrite hs { old with refs := r } x' (fun _ => h1) (fun e => by rw [show _ = old.present from rfl, hp] at e; cases e)
    (fun p => a.par i old p hs)
    -- whose child a slot is does not depend on its `refs` (by `rfl`): the `show`s put `old` back
    (by show _ + (if isChildOf i old then 1 else 0) + _ = _ + _ + r; omega)
    (fun j e => by show _ + (if isChildOf j old then 1 else 0) = _; simp only [ho j e])

theorem relog (a : RAcc ths s h x) (cl : List Sid) : RAcc ths { s with closed := cl } h x :=
  { a with }

/-- `hcl`: every span is claimed as often as before: a reference passes from a handle or an entered guard into flight, or back -/
theorem reclaim (a : RAcc ths s h x) (stk' : Tid → List Ctx) (h' : List Nat) (x' : Option Sid)
    (hlen : h'.length = h.length) (hstk : ∀ (t : Tid) (c : Ctx), c ∈ stk' t → c.id < s.slots.length)
    (hthr : ∀ t, t ∉ ths → stk' t = [])
    (hcl : ∀ j, handles h' j + entered ths { s with stacks := stk' } j + (if x' = some j then 1 else 0) =
                handles h j + entered ths s j + (if x = some j then 1 else 0)) :
    RAcc ths { s with stacks := stk' } h' x' := by
  have key : ∀ j, expect ths { s with stacks := stk' } h' j + (if x' = some j then 1 else 0) =
      expect ths s h j + (if x = some j then 1 else 0) := fun j => by
    have := hcl j
    show _ + _ + children s j + _ = _ + _ + children s j + _
    omega
  refine of_slots (hlen.trans a.len) (fun j sl hj => ?_) hstk a.own hthr (fun j e => a.lt_of_claimed ?_)
  · rw [key j]; exact a.slot hj
  · rw [← key j, if_pos e]; omega

theorem restack (hnd : ths.Nodup) (a : RAcc ths s h x) {t : Tid} (ht : t ∈ ths) (st' : List Ctx)
    (hst : ∀ c ∈ st', c.id < s.slots.length) (x' : Option Sid)
    (hcl : ∀ j, cnt st' j + (if x' = some j then 1 else 0) = cnt (s.stacks t) j + (if x = some j then 1 else 0)) :
    RAcc ths { s with stacks := update s.stacks t st' } h x' := by
  refine a.reclaim _ h x' rfl (fun t' c hc => ?_) (fun t' ht' => ?_) (fun j => ?_)
  · unfold update at hc
    split at hc
    · exact hst c hc
    · exact a.stk t' c hc
  · rw [update_other fun e : t' = t => ht' (e ▸ ht), a.thr t' ht']
  · have := entered_update hnd s ht st' j
    have := hcl j
    omega

theorem rehandle (a : RAcc ths s h x) {id : Sid} (hl : id < h.length) (v : Nat) (x' : Option Sid)
    (hi : v + (if x' = some id then 1 else 0) = handles h id + (if x = some id then 1 else 0))
    (ho : ∀ j, j ≠ id → (x' = some j ↔ x = some j)) : RAcc ths s (h.set id v) x' := by
  refine a.reclaim s.stacks _ x' List.length_set a.stk a.thr fun j => ?_
  show handles (h.set id v) j + entered ths s j + _ = _
  simp only [handles, List.getD_eq_getElem?_getD, getElem?_set_of_some (List.getElem?_eq_getElem hl)]
  split
  · subst j; simp only [handles, List.getD_eq_getElem?_getD] at hi; simp only [Option.getD_some]; omega
  · simp only [ho j ‹_›]

theorem bump (a : RAcc ths s h none) {p : Sid} {ps : Slot} (hs : s.slots[p]? = some ps) (hp : ps.present = true) :
    RAcc ths (setSlot s p { ps with refs := ps.refs + 1 }) h (some p) :=
  a.setRefs hs hp _ (some p) (Nat.le_add_left 1 _) (by rw [if_pos rfl, if_neg nofun]; omega) (fun j e => by simp [Ne.symm e])

/-- the span that holds the reference in flight has reference count 1 (so no handle, guard or child is left): clearing its
slot passes the reference in flight to its parent -/
theorem clear {id : Sid} (a : RAcc ths s h (some id)) {sl : Slot} (hs : s.slots[id]? = some sl) (hp : sl.present = true)
    (h1 : sl.refs = 1) : RAcc ths (clearSlot s id) h sl.parent := by
  -- `sl` was an open child of its parent and of no other span: that claim is what the reference in flight replaces
  have hch : ∀ j, (if isChildOf j sl then 1 else 0) = if sl.parent = some j then 1 else 0 := fun j => by
    simp only [isChildOf, hp, Bool.true_and, beq_iff_eq]
  refine (a.overwrite hs { refs := 0, parent := none, present := false } sl.parent nofun (fun _ => ⟨rfl, rfl⟩) nofun ?_ ?_).relog _
  · -- the cleared slot is nobody's child; `sl` was claimed once: by the reference in flight
    rw [isChildOf_false_of_absent id _ rfl, hch, if_pos rfl, h1, if_neg Bool.false_ne_true]
    exact Nat.add_comm _ 1
  · intro j e
    rw [isChildOf_false_of_absent j _ rfl, hch, if_neg (Ne.symm e ∘ Option.some.inj), if_neg Bool.false_ne_true]
    exact Nat.add_comm _ 0

/-- a new span: reference count 1 for its first handle; if it has a parent, the parent's extra reference is now accounted
for by one more open child -/
theorem append (a : RAcc ths s h x) {new : Slot} (h1 : new.refs = 1) (h2 : new.parent = x) (h3 : new.present = true) :
    RAcc ths { s with slots := s.slots ++ [new] } (h ++ [1]) none := by
  have hxlt : ∀ p, x = some p → p < s.slots.length := fun p hp => by
    obtain ⟨ps, hps, _⟩ := a.xin p hp; exact lt_of_getElem? hps
  refine of_slots (by simp [a.len]) (fun j sl hj => ?_) (fun t c hc => ?_) a.own a.thr (fun j e => by cases e)
  · have hc : children { s with slots := s.slots ++ [new] } j = children s j + (if x = some j then 1 else 0) := by
      simp only [children, List.countP_append, List.countP_singleton, h2, h3, Bool.true_and, beq_iff_eq]
    have hh : handles (h ++ [1]) j = if j = s.slots.length then 1 else handles h j := by
      simp only [handles, List.getD_eq_getElem?_getD, getElem?_concat, a.len]
      split <;> rfl
    rw [show expect ths _ (h ++ [1]) j + (if (none : Option Sid) = some j then 1 else 0) =
        (if j = s.slots.length then 1 else handles h j) + entered ths s j + children s j + (if x = some j then 1 else 0) by
      show handles (h ++ [1]) j + entered ths s j + children _ j + 0 = _
      rw [hh, hc]; omega]
    rw [getElem?_concat] at hj
    split at hj
    · cases hj
      rename_i e
      have := a.expect_eq_zero (Nat.le_of_eq e.symm)
      have hx : x ≠ some j := fun e' => Nat.lt_irrefl _ (e ▸ hxlt j e')
      simp only [expect] at this
      rw [if_pos e, if_neg hx]
      exact ⟨by omega, fun _ => by omega, fun e => (by rw [h3] at e; cases e), fun p hp => e ▸ hxlt p (h2 ▸ hp)⟩
    · rename_i e
      rw [if_neg e]
      exact a.slot hj
  · rw [List.length_append]; exact Nat.lt_add_right _ (a.stk t c hc)

end RAcc

/-- `try_close` on the span that holds one reference too many restores exact accounting: either it just
decrements, or the span leaves the registry — which takes one child away from its parent, so the parent now
holds one too many, and so on up the chain (the parent is always an OLDER span: the cascade ends) -/
theorem tryClose_acc (ths : List Tid) (fuel : Nat) : ∀ (s : RState) (h : List Nat) (t : Tid) (id : Sid),
    RAcc ths s h (some id) → id < fuel → RAcc ths (tryClose fuel s t id) h none := by
  induction fuel with
  | zero => intro s h t id a hf; exact absurd hf (Nat.not_lt_zero _)
  | succ n ih =>
    intro s h t id a hf
    obtain ⟨sl, hs, hp⟩ := a.xin id rfl
    have hr := (a.slot hs).refs
    rw [if_pos rfl] at hr
    rcases tryClose_succ_cases hs n t with ⟨h0, -⟩ | ⟨h1, e⟩ | ⟨h1, hpar, e⟩ | ⟨h1, p, hpar, -, e⟩
    · omega
    all_goals rw [e]
    · exact a.setRefs hs hp _ none (by omega) (by rw [if_neg nofun, if_pos rfl]; omega) (fun j e => by simp [Ne.symm e])
    · have hpn : sl.parent = none := hpar.resolve_right (by rw [a.own t]; nofun)
      exact hpn ▸ a.clear hs hp h1
    · exact ih _ h t p (hpar ▸ a.clear hs hp h1) (Nat.lt_of_lt_of_le (a.par id sl p hs hpar) (Nat.lt_succ_iff.mp hf))

/-- an operation together with what it does to the handles the program holds (ghost) -/
def gstep (s : RState) (h : List Nat) : Op → RState × List Nat
  | .newSpan t k => (newSpan s t k, h ++ [1])
  | .cloneHandle id => (cloneRef s id, h.set id (handles h id + 1))
  | .dropHandle t id => (dropHandle s t id, h.set id (handles h id - 1))
  | .enter t id => (enter s t id, h)
  | .exit t id => (exit s t id, h)
  | .setDflt t d => ({ s with dflt := update s.dflt t d }, h)

theorem gstep_fst (s : RState) (h : List Nat) (op : Op) : (gstep s h op).1 = step s op := by
  cases op <;> rfl

/-- what a program can do: clone / drop / enter through a handle it holds, name a live span as explicit parent,
act on one of the threads of the history; every thread's default stays the registry's own collector (else: F2) -/
def okOp (ths : List Tid) (s : RState) (h : List Nat) : Op → Prop
  | .newSpan t k => t ∈ ths ∧ (match k with
      | .explicit p => ∃ sl : Slot, s.slots[p]? = some sl ∧ sl.present = true
      | _ => True)
  | .cloneHandle id => 1 ≤ handles h id
  | .dropHandle t id => t ∈ ths ∧ 1 ≤ handles h id
  | .enter t id => t ∈ ths ∧ 1 ≤ handles h id
  | .exit t _ => t ∈ ths
  | .setDflt _ d => d = .own

theorem step_acc (ths : List Tid) (hnd : ths.Nodup) (s : RState) (h : List Nat) (a : RAcc ths s h none) (op : Op)
    (ok : okOp ths s h op) : RAcc ths (gstep s h op).1 (gstep s h op).2 none := by
  cases op with
  | cloneHandle id =>
    obtain ⟨sl, hs, hp⟩ := a.present_of_handle ok
    simp only [gstep, cloneRef_eq hs (a.pres _ _ hs hp).2]
    exact (a.bump hs hp).rehandle (a.len ▸ lt_of_getElem? hs) _ none (by simp) (fun j e => by simp [Ne.symm e])
  | dropHandle t id =>
    obtain ⟨ht, hh⟩ := ok
    obtain ⟨sl, hs, hp⟩ := a.present_of_handle hh
    exact tryClose_acc ths _ _ _ t id
      (a.rehandle (a.len ▸ lt_of_getElem? hs) _ (some id) (by rw [if_pos rfl, if_neg nofun]; omega) (fun j e => by simp [Ne.symm e]))
      (Nat.lt_succ_of_lt (lt_of_getElem? hs))
  | enter t id =>
    obtain ⟨ht, hh⟩ := ok
    obtain ⟨sl, hs, hp⟩ := a.present_of_handle hh
    have hst : ∀ c ∈ (push (s.stacks t) id).1, c.id < s.slots.length := fun c hc =>
      (mem_push hc).elim (a.stk t c) (fun e => e ▸ lt_of_getElem? hs)
    simp only [gstep, enter]
    by_cases hr : (push (s.stacks t) id).2 = true
    · have hs1 : ({ s with stacks := update s.stacks t (push (s.stacks t) id).1 } : RState).slots[id]? = some sl := hs
      rw [if_pos hr, cloneRef_eq hs1 (a.pres _ _ hs hp).2]
      refine (a.bump hs hp).restack hnd ht _ (by rwa [length_setSlot]) none (fun j => ?_)
      show cnt (push (s.stacks t) id).1 j + _ = cnt (s.stacks t) j + _
      simp [cnt_push, hr]
    · rw [if_neg hr]
      exact a.restack hnd ht _ hst none (fun j => by simp [cnt_push, hr])
  | exit t id =>
    have ht : t ∈ ths := ok
    have hst : ∀ c ∈ (pop (s.stacks t) id).1, c.id < s.slots.length := fun c hc => a.stk t c (mem_pop hc)
    have hc := cnt_pop (s.stacks t) id
    simp only [gstep, exit]
    by_cases hr : (pop (s.stacks t) id).2 = true
    · simp only [hr, if_true, closeViaDefault, a.own t]
      obtain ⟨sl, hs, hp⟩ := a.present_of_entered ht (id := id) (by have := hc id; rw [if_pos ⟨rfl, hr⟩] at this; omega)
      exact tryClose_acc ths _ _ h t id (a.restack hnd ht _ hst (some id) (fun j => by simp [← hc j, hr]))
        (Nat.lt_succ_of_lt (lt_of_getElem? hs))
    · rw [if_neg hr]
      exact a.restack hnd ht _ hst none (fun j => by simp [← hc j, hr])
  | setDflt t d =>
    cases (ok : d = .own)
    refine { a with own := fun t' => ?_ }
    show update s.dflt t Dflt.own t' = Dflt.own
    unfold update; split
    · rfl
    · exact a.own t'
  | newSpan t k =>
    obtain ⟨ht, hk⟩ := ok
    simp only [gstep, newSpan]
    cases hpar : resolveParent s t k with
    | none => exact a.append rfl rfl rfl
    | some p =>
      obtain ⟨ps, hps, hpp⟩ : ∃ ps : Slot, s.slots[p]? = some ps ∧ ps.present = true := by
        cases k with
        | root => cases hpar
        | contextual =>
          obtain ⟨c, hcm, rfl, hcd⟩ := current_mem hpar
          exact a.present_of_entered ht (cnt_pos_of_mem hcm hcd)
        | explicit q => cases hpar; exact hk
      rw [refParent, cloneRef_eq hps (a.pres _ _ hps hpp).2]
      exact (a.bump hps hpp).append rfl rfl rfl

def grun : RState → List Nat → List Op → RState × List Nat
  | s, h, [] => (s, h)
  | s, h, op :: ops => grun (gstep s h op).1 (gstep s h op).2 ops

/-- every operation of the history is one the program can perform at that point -/
def okRun (ths : List Tid) : RState → List Nat → List Op → Prop
  | _, _, [] => True
  | s, h, op :: ops => okOp ths s h op ∧ okRun ths (gstep s h op).1 (gstep s h op).2 ops

theorem grun_fst (ops : List Op) (s : RState) (h : List Nat) : (grun s h ops).1 = ops.foldl step s := by
  induction ops generalizing s h with
  | nil => rfl
  | cons op ops ih => simp only [grun, List.foldl_cons]; rw [ih, gstep_fst]

theorem run_acc {ths : List Tid} (hnd : ths.Nodup) {s : RState} {h : List Nat} (a : RAcc ths s h none) (ops : List Op)
    (ok : okRun ths s h ops) : RAcc ths (grun s h ops).1 (grun s h ops).2 none := by
  induction ops generalizing s h with
  | nil => exact a
  | cons op ops ih => exact ih (step_acc ths hnd s h a op ok.1) ok.2

theorem acc_reachable {ths : List Tid} (hnd : ths.Nodup) {ops : List Op} (ok : okRun ths RState.init [] ops) :
    RAcc ths (ops.foldl step RState.init) (grun RState.init [] ops).2 none := by
  have a := run_acc hnd (RAcc.init ths) ops ok
  rwa [grun_fst] at a

/-- **C05.refcount_sum** — in EVERY history of create (any parent kind) / clone / drop / enter / exit on any finite set of
threads whose defaults are the registry's own collector, at every point and for every span still in the registry:
its stored reference count is exactly  handles held + threads entered on + children still open  (and at least 1) -/
theorem refcount_sum (ths : List Tid) (hnd : ths.Nodup) (ops : List Op) (ok : okRun ths RState.init [] ops)
    (id : Sid) (sl : Slot) (hs : (ops.foldl step RState.init).slots[id]? = some sl) (hp : sl.present = true) :
    sl.refs = handles (grun RState.init [] ops).2 id + entered ths (ops.foldl step RState.init) id
                + children (ops.foldl step RState.init) id ∧ 1 ≤ sl.refs :=
  (acc_reachable hnd ok).pres id sl hs hp

/-- **C05.closed_means_nothing_left** — never earlier: a span that has been reported closed has no handle left, is entered
on no thread and has no open child (and this stays so: the statement is about every later point of the history too) -/
theorem closed_means_nothing_left (ths : List Tid) (hnd : ths.Nodup) (ops : List Op) (ok : okRun ths RState.init [] ops)
    (id : Sid) (hc : id ∈ (ops.foldl step RState.init).closed) :
    handles (grun RState.init [] ops).2 id = 0 ∧ entered ths (ops.foldl step RState.init) id = 0 ∧
    children (ops.foldl step RState.init) id = 0 := by
  obtain ⟨sl, hs, hpp, _⟩ := (close_once ops).2 id hc
  have := ((acc_reachable hnd ok).gone id sl hs hpp).1
  simp only [expect] at this
  omega

/-- **C05.nothing_left_means_gone** — and not later: a span with no handle, entered nowhere and without open children is not
in the registry any more (it was cleared in the very step that took the last of the three away) -/
theorem nothing_left_means_gone (ths : List Tid) (hnd : ths.Nodup) (ops : List Op) (ok : okRun ths RState.init [] ops)
    (id : Sid) (sl : Slot) (hs : (ops.foldl step RState.init).slots[id]? = some sl)
    (h0 : handles (grun RState.init [] ops).2 id = 0) (e0 : entered ths (ops.foldl step RState.init) id = 0)
    (c0 : children (ops.foldl step RState.init) id = 0) : sl.present = false := by
  cases hp : sl.present with
  | false => rfl
  | true =>
    have := refcount_sum ths hnd ops ok id sl hs hp
    omega

/-- a decidable version of `okOp`, for concrete programs -/
def okOpB (ths : List Tid) (s : RState) (h : List Nat) : Op → Bool
  | .newSpan t k => ths.contains t && (match k with
      | .explicit p => (match s.slots[p]? with | some sl => sl.present | none => false)
      | _ => true)
  | .cloneHandle id => decide (1 ≤ handles h id)
  | .dropHandle t id => ths.contains t && decide (1 ≤ handles h id)
  | .enter t id => ths.contains t && decide (1 ≤ handles h id)
  | .exit t _ => ths.contains t
  | .setDflt _ d => d == .own

def okRunB (ths : List Tid) : RState → List Nat → List Op → Bool
  | _, _, [] => true
  | s, h, op :: ops => okOpB ths s h op && okRunB ths (gstep s h op).1 (gstep s h op).2 ops

theorem okOp_of_B (ths : List Tid) (s : RState) (h : List Nat) (op : Op) (hb : okOpB ths s h op = true) : okOp ths s h op := by
  cases op with
  | newSpan t k =>
    cases k with
    | explicit p =>
      cases hs : s.slots[p]? with
      | none => simp [okOpB, hs] at hb
      | some sl => simpa [okOpB, okOp, hs] using hb
    | _ => simpa [okOpB, okOp] using hb
  | _ => simpa [okOpB, okOp] using hb

theorem okRun_of_B (ths : List Tid) (ops : List Op) (s : RState) (h : List Nat) (hb : okRunB ths s h ops = true) : okRun ths s h ops := by
  induction ops generalizing s h with
  | nil => trivial
  | cons op ops ih =>
    simp only [okRunB, Bool.and_eq_true] at hb
    exact ⟨okOp_of_B ths s h op hb.1, ih _ _ hb.2⟩

/-- non-vacuity: two threads, a contextual and an explicit child, a clone, out-of-order exits, a parent dropped before its
children — the hypotheses hold, and the numbers are what the theorem says -/
example :
    let ops := [Op.newSpan 0 .root, .enter 0 0, .newSpan 0 .contextual, .cloneHandle 0, .newSpan 1 (.explicit 0), .enter 1 0,
                .dropHandle 0 0, .exit 0 0, .dropHandle 1 0, .dropHandle 0 1, .exit 1 0]
    okRunB [0, 1] RState.init [] ops = true ∧
    ((ops.foldl step RState.init).slots[0]?).map (·.refs) = some 1 ∧
    children (ops.foldl step RState.init) 0 = 1 ∧ (ops.foldl step RState.init).closed = [1] := by decide

end C05
