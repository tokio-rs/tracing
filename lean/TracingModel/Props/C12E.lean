/-
C12, the env-filter extended in place behind a reload handle (`Handle::modify(|f| *f = take(f).add_directive(d))`):
the filter that judges the emissions started after the change is the one built from the extended directive list — a span
callsite the added directive cares about is enabled and every span created from it afterwards carries a matcher of the added
directive (with its level and its value matchers), whatever the list held before and however often the callsite was hit before.
The model's `ad` operation (Core/EnvDynDriver.lean) replaces the tables by `mkEnv true (ds ++ [d])` and keeps the state of the
spans that exist; the real filter is compared with it in the stream `envmodify`.

Second part: the state a running env-filter has built up (matchers of the live spans, levels raised on the thread) stays
consistent with the tables when a directive is added in place, so the verdict on every emission started after the change is the
specification's verdict computed from the EXTENDED tables (C11.dyn_passes_spec applies to the new tables and the old state).
-/
import TracingModel.Props.C11D

namespace C12
open TM TM.EnvDyn

/-- what `add_directive` sends to the dynamic table: the directives that cannot be static (spelled as
in `mkEnv` with `viaAdd := true`, so that `mkEnv_dynamics` / `mkEnv_dynMax` hold by `rfl`) -/
def dynIn (ds : List DDir) : List DDir := ds.filter (fun d => d.isDynamic && !(true && d.isStatic))

theorem mkEnv_dynamics (ds : List DDir) : (mkEnv true ds).dynamics = dedup (dynIn ds) := rfl
theorem mkEnv_dynMax (ds : List DDir) : (mkEnv true ds).dynMax = (dynIn ds).foldl (fun a d => max a d.level) 0 := rfl
theorem dynIn_append (ds es : List DDir) : dynIn (ds ++ es) = dynIn ds ++ dynIn es := List.filter_append ..

/-- a span-scoped directive added to the running filter is in the dynamic table afterwards -/
theorem added_is_in_table (ds : List DDir) (d : DDir) (hd : d.isDynamic = true) (hs : d.isStatic = false) :
    d ∈ (mkEnv true (ds ++ [d])).dynamics := by
  have : dynIn [d] = [d] := by simp [dynIn, hd, hs]
  rw [mkEnv_dynamics, dynIn_append, this, C11.dedup_snoc]
  exact List.mem_append_right _ List.mem_cons_self

/-- … so a span callsite it cares about is enabled (interest `always`) and every span created from it from now on carries the
added directive's matcher: its level and its value matchers, none of them satisfied yet -/
theorem added_directive_judges_new_spans (ds : List DDir) (d : DDir) (m : CMeta)
    (hd : d.isDynamic = true) (hs : d.isStatic = false) (hm : m.isSpan = true) (hc : caresDyn d m = true) :
    registerCallsite (mkEnv true (ds ++ [d])) m = .always ∧
    ({ fields := d.fields.filterMap (fun f => f.2.map (fun v => (f.1, v, false))), level := d.level } : SMatch)
      ∈ matcherOf (mkEnv true (ds ++ [d])) m := by
  have hin := added_is_in_table ds d hd hs
  have hmem : _ ∈ matcherOf (mkEnv true (ds ++ [d])) m :=
    List.mem_map.mpr ⟨d, List.mem_filter.mpr ⟨hin, hc⟩, rfl⟩
  refine ⟨?_, hmem⟩
  -- the table is not empty and the callsite has a matcher: `register_callsite` stops at its first test
  have hcared : caredSpan (mkEnv true (ds ++ [d])) m = true := by
    rw [caredSpan, Env.hasDynamics, hm, List.isEmpty_eq_false_iff_exists_mem.mpr ⟨_, hin⟩,
      List.isEmpty_eq_false_iff_exists_mem.mpr ⟨_, hmem⟩]
    rfl
  rw [registerCallsite, if_pos hcared]

/-- the premises are satisfiable: `app[req{id=7}]=debug` added to a filter that held `[req]=off` -/
example : let d : DDir := { target := some (TM.ofString "app"), inSpan := some (TM.ofString "req"), fields := [(TM.ofString "id", some (.int 7))], level := 4 }
    let m : CMeta := { name := TM.ofString "req", target := TM.ofString "app", level := 3, isSpan := true, fields := [TM.ofString "id"] }
    d.isDynamic = true ∧ d.isStatic = false ∧ m.isSpan = true ∧ caresDyn d m = true := by decide

theorem dynMax_mono (ds : List DDir) (d : DDir) : (mkEnv true ds).dynMax ≤ (mkEnv true (ds ++ [d])).dynMax := by
  rw [mkEnv_dynMax, mkEnv_dynMax, dynIn_append, List.foldl_append]
  exact (TM.Lists.le_foldl_max DDir.level _ _).1

theorem noDynamics_before (ds : List DDir) (d : DDir) (h : (mkEnv true (ds ++ [d])).hasDynamics = false) :
    (mkEnv true ds).hasDynamics = false := by
  rw [Env.hasDynamics, Bool.not_eq_false', List.isEmpty_iff, mkEnv_dynamics, C11.dedup_nil_iff] at h ⊢
  rw [dynIn_append] at h
  exact (List.append_eq_nil_iff.mp h).1

/-- the invariant that ties the filter's state to its tables survives `add_directive` on the running filter -/
theorem add_directive_keeps_inv (ds : List DDir) (d : DDir) (s : St) (ent : C11.Entered)
    (h : C11.DInv (mkEnv true ds) s ent) : C11.DInv (mkEnv true (ds ++ [d])) s ent := by
  have hm := dynMax_mono ds d
  refine ⟨h.scope, ?_, ?_, ?_⟩
  · intro x hx; exact Nat.le_trans (h.bound x hx) hm
  · intro p hp sm hsm; exact Nat.le_trans (h.stored p hp sm hsm) hm
  · intro hn; exact h.nodyn (noDynamics_before ds d hn)

/-- **C12.after_add_directive** — whatever state the running filter was in (any well-nested history before the change), an
emission started after the directive was added is let through exactly when the EXTENDED tables say so: it is a span the extended
dynamic table cares about, or the extended static table allows it, or a matching span entered on the thread right now (before
or after the change) had a level that allows it. -/
theorem after_add_directive (ds : List DDir) (d : DDir) (s : St) (ent : C11.Entered)
    (h : C11.DInv (mkEnv true ds) s ent) (m : CMeta) :
    passes (mkEnv true (ds ++ [d])) s m =
      (caredSpan (mkEnv true (ds ++ [d])) m || Directive.enabled (mkEnv true (ds ++ [d])).statics m.toMeta
        || ent.any (fun x => decide (m.level ≤ x.2))) :=
  C11.dyn_passes_spec _ ⟨_, rfl⟩ s ent (add_directive_keeps_inv ds d s ent h) m

end C12
