/-
C08 — "Static summaries of filters (interest, max-level hint) are sound upper bounds"

  For every provided filter, filter combinator and composed stack, the summary it publishes for
  caching agrees with its real decision: it never answers 'never' for a callsite, nor advertises a
  maximum level below a level, that it would accept if asked dynamically, and it never answers
  'always' for a callsite it could reject. The same holds for the summary of a whole stack
  relative to what any of its layers would receive.

Model: Core/FilterExpr.lean (transcribed from combinator.rs, filter_fn.rs, targets.rs,
subscriber_filters/mod.rs, reload.rs).
-/
import TracingModel.Core.FilterExpr
import TracingModel.Props.C11

namespace C08
open TM.FilterExpr TM.FilterExpr.FExpr TM.Directive
open TM.Callsite (Interest)

/-- the user-supplied parts are honest (what the code's own `debug_assert!`s demand): a closure's
hint bounds what it enables, and a user-supplied `callsite_enabled` closure is itself a sound
summary of the dynamic closure -/
def Honest : FExpr → Prop
  | level _ => True
  | targets _ => True
  | fn p hint => ∀ m, p m = true → belowHint hint m = true
  | dyn p hint cs =>
    (∀ m c, p m c = true → belowHint hint m = true) ∧
    (match cs with
     | some g => ∀ m, (g m = .never → ∀ c, p m c = false) ∧ (g m = .always → ∀ c, p m c = true)
     | none => True)
  | optNone => True
  | optSome f => Honest f
  | conj a b => Honest a ∧ Honest b
  | disj a b => Honest a ∧ Honest b
  | neg a => Honest a
  | reload f => Honest f
  | boxed f => Honest f

/-- a summary is sound for a metadata: `never` ⇒ never enabled, `always` ⇒ always enabled -/
def InterestSound (f : FExpr) (m : Meta) : Prop :=
  (callsiteF f m = .never → ∀ c, enabledF f m c = false) ∧
  (callsiteF f m = .always → ∀ c, enabledF f m c = true)

/-- the summary `i` does not contradict the verdict `e`; `InterestSound f m` is `∀ c, Agree (callsiteF f m) (enabledF f m c)` -/
def Agree (i : Interest) (e : Bool) : Prop := (i = .never → e = false) ∧ (i = .always → e = true)

/-- a filter without context; `p` is how the code tests the verdict `e` -/
theorem Agree.static {p : Prop} [Decidable p] {e : Bool} (h : e = true ↔ p) :
    Agree (if p then .always else .never) e := by
  by_cases hp : p
  · rw [if_pos hp]; exact ⟨nofun, fun _ => h.mpr hp⟩
  · rw [if_neg hp]; exact ⟨fun _ => Bool.eq_false_iff.mpr (mt h.mp hp), nofun⟩

/-- `DynFilterFn::default_callsite_enabled` -/
theorem Agree.hinted {b e : Bool} (h : e = true → b = true) : Agree (if b = true then .sometimes else .never) e := by
  cases b <;> cases e <;> simp_all [Agree]

/-- `And::callsite_enabled` -/
theorem Agree.conj {ia ib : Interest} {ea eb : Bool} (ha : Agree ia ea) (hb : Agree ib eb) :
    Agree (if ia = .never then ia else if ib ≠ .always then ib else ia) (ea && eb) := by
  cases ia <;> cases ib <;> simp_all [Agree]

/-- `Or::callsite_enabled` -/
theorem Agree.disj {ia ib : Interest} {ea eb : Bool} (ha : Agree ia ea) (hb : Agree ib eb) :
    Agree (if ia = .always ∨ ib = .always then .always else if ia = .sometimes ∨ ib = .sometimes then .sometimes else .never)
      (ea || eb) := by
  cases ia <;> cases ib <;> simp_all [Agree]

/-- `Not::callsite_enabled` -/
theorem Agree.neg {ia : Interest} {ea : Bool} :
    Agree ia ea → Agree (match ia with | .always => .never | .never => .always | .sometimes => .sometimes) (!ea) := by
  cases ia <;> simp [Agree]

theorem agree (f : FExpr) (h : Honest f) (m : Meta) (c : Ctx) : Agree (callsiteF f m) (enabledF f m c) := by
  induction f with
  | level l => exact Agree.static decide_eq_true_iff
  | targets s => exact Agree.static Iff.rfl
  | fn p hint => exact Agree.static Iff.rfl
  | dyn p hint cs =>
    cases cs with
    | some g => exact ⟨fun e => (h.2 m).1 e c, fun e => (h.2 m).2 e c⟩
    | none => exact Agree.hinted (h.1 m c)
  | optNone => exact ⟨nofun, fun _ => rfl⟩
  | optSome f ih => exact ih h
  | conj a b iha ihb => exact (iha h.1).conj (ihb h.2)
  | disj a b iha ihb => exact (iha h.1).disj (ihb h.2)
  | neg a ih => exact (ih h).neg
  | reload f ih => exact ih h
  | boxed f ih => exact ih h

/-- **C08.interest_sound** — for EVERY filter expression of any depth over level thresholds,
target tables, closures (with honest hints), Option, and/or/not, reload and Box wrappers, and
every metadata: the cached summary never says `never` for something the filter would accept in
some context, and never says `always` for something it could reject. -/
theorem interest_sound (f : FExpr) (h : Honest f) (m : Meta) : InterestSound f m :=
  ⟨fun e c => (agree f h m c).1 e, fun e c => (agree f h m c).2 e⟩

/-- every directive of a static table is at or below the table's max level
(not `TM.FilteringLemmas.WF`, which is about a stack: with that namespace open inside `C08`, write `C08.WF`) -/
def WF (s : DSet) : Prop := ∀ d ∈ s.dirs, d.level ≤ s.maxLevel

theorem build_wf (ds : List SDir) : WF (build ds) :=
  fun d hd => C11.max_level_bound ds d (C11.mem_build ds d hd)

/-- target tables are built by insertions (`Targets::with_target`, `FromStr`, `Extend`) -/
def Built : FExpr → Prop
  | targets s => ∃ ds, s = build ds
  | optSome f => Built f
  | conj a b => Built a ∧ Built b
  | disj a b => Built a ∧ Built b
  | neg a => Built a
  | reload f => Built f
  | boxed f => Built f
  | _ => True

theorem belowHint_some {l : Nat} {m : Meta} : belowHint (some l) m = true ↔ m.level ≤ l := decide_eq_true_iff

theorem belowHint_optMin {a b : Option Nat} {m : Meta} (ha : belowHint a m = true) (hb : belowHint b m = true) :
    belowHint (optMin a b) m = true := by
  cases a with
  | none => rfl
  | some x =>
    cases b with
    | none => rfl
    | some y => exact belowHint_some.mpr (Nat.le_min.mpr ⟨belowHint_some.mp ha, belowHint_some.mp hb⟩)

/-- `Or::max_level_hint`, and `pick_level_hint` between two per-layer-filtered sides -/
theorem belowHint_max {a b : Option Nat} {m : Meta} : belowHint a m = true ∨ belowHint b m = true →
    belowHint (match a, b with | some x, some y => some (max x y) | _, _ => none) m = true := by
  intro h
  cases a with
  | none => rfl
  | some x =>
    cases b with
    | none => rfl
    | some y =>
      refine belowHint_some.mpr (h.elim (fun h => ?_) (fun h => ?_))
      · exact Nat.le_trans (belowHint_some.mp h) (Nat.le_max_left x y)
      · exact Nat.le_trans (belowHint_some.mp h) (Nat.le_max_right x y)

/-- **C08.hint_sound** — for every filter expression and every metadata and context: whatever the
filter enables has a level within the advertised maximum level (no hint = no limit). -/
theorem hint_sound (f : FExpr) (h : Honest f) (hb : Built f) (m : Meta) (c : Ctx)
    (he : enabledF f m c = true) : belowHint (hintF f) m = true := by
  induction f with
  | level l => exact he
  | targets s =>
    obtain ⟨ds, rfl⟩ := hb
    exact decide_eq_true (C11.static_enabled_le_max ds m he)
  | fn p hint => exact h m he
  | dyn p hint cs => exact h.1 m c he
  | optNone => rfl
  | optSome f ih => exact ih h hb he
  | conj a b iha ihb =>
    have he : (enabledF a m c && enabledF b m c) = true := he
    rw [Bool.and_eq_true] at he
    exact belowHint_optMin (iha h.1 hb.1 he.1) (ihb h.2 hb.2 he.2)
  | disj a b iha ihb =>
    have he : (enabledF a m c || enabledF b m c) = true := he
    rw [Bool.or_eq_true] at he
    exact belowHint_max (he.imp (iha h.1 hb.1) (ihb h.2 hb.2))
  | neg a _ => rfl
  | reload f ih => exact ih h hb he
  | boxed f ih => exact ih h hb he

/-- non-vacuity: a depth-3 expression mixing static, dynamic and negated parts -/
example :
    let f := conj (level 3) (disj (dyn (fun m c => m.level ≤ 2 && c == 1) (some 2) none) (neg (level 1)))
    callsiteF f { target := [], level := 1, isEvent := true, fields := [] } = .sometimes ∧
    callsiteF f { target := [], level := 4, isEvent := true, fields := [] } = .never ∧
    hintF f = none := by decide

end C08
