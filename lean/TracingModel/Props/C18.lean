/-
C18 — "log and tracing interoperate without losing, inventing or mislabelling records"

  A log record passed to the log-to-tracing bridge becomes exactly one tracing event when the
  current collector accepts the record's own level and target (and none otherwise), carrying the
  record's message and, after normalisation, its target, level, file, line and module path. In the
  other direction, with the log feature and no collector ever installed, each event and span
  lifecycle step emits exactly one log record with the corresponding level and target whose text
  contains the message and every field; once a collector has been installed none are emitted.
  Level conversion is a bijection that preserves order.

Model: Core/LogBridge.lean over facts extracted from dispatch.rs, macros.rs, log_tracer.rs and
tracing-log/src/lib.rs on every run; the level tables are C19's (Gen/Levels.lean).
-/
import TracingModel.Core.LogBridge
import TracingModel.Props.C19

namespace C18
open TM.LogBridge TM.Gen.LogFacts

/-- the values the regenerated `Gen/LogFacts.lean` has now: a change of dispatch.rs, macros.rs, log_tracer.rs or tracing-log's
lib.rs that alters one of them fails here first -/
theorem code_facts :
    hasBeenSetReadsExists = true ∧ existsStoresTrue = 2 ∧ existsOtherWrites = 0 ∧ existsSetBySetDefault = true ∧
    existsSetBySetGlobal = true ∧ logGateIsNotHasBeenSet = true ∧ tracingLogChecksLoggerThenLogs = true ∧
    logTracerEnabledOrder = ["max-level", "ignore-prefix", "collector-enabled"] ∧ logTracerLogsIfEnabled = true ∧
    dispatchRecordOneEvent = true ∧ dispatchRecordFiveFields = true :=
  ⟨rfl, rfl, rfl, rfl, rfl, rfl, rfl, rfl, rfl, rfl, rfl⟩

/-- a collector whose max-level hint is sound (C08 / C01): it accepts nothing above the hint -/
def SoundHint (c : Coll) : Prop := ∀ l t, c.accepts l t = true → l ≤ c.maxLevel

def norm (r : Record) : Normalized :=
  { level := r.level, target := r.target, message := r.message, modulePath := r.modulePath, file := r.file, line := r.line }

/-- with a sound hint the max-level test of `LogTracer::enabled` is implied by the collector's own answer -/
theorem bridge_eq (ign : List String) (c : Coll) (hc : SoundHint c) (r : Record) :
    bridge ign c r = if c.accepts r.level r.target && !ignored ign r.target then [norm r] else [] := by
  obtain ⟨-, -, -, -, -, -, -, hLogTracerEnabledOrder, hLogTracerLogsIfEnabled, hDispatchRecordOneEvent, -⟩ := code_facts
  have hen : tracerEnabled ign c r = (decide (r.level ≤ c.maxLevel) && !ignored ign r.target && c.accepts r.level r.target) := by
    simp [tracerEnabled, hLogTracerEnabledOrder, Bool.and_assoc]
  simp only [bridge, hen, hLogTracerLogsIfEnabled, hDispatchRecordOneEvent,
    Bool.true_and, Bool.and_true, norm]
  cases ha : c.accepts r.level r.target
  · simp
  · simp [hc _ _ ha]

/-- **C18.bridge_iff** — for EVERY record, ignore list and collector with a sound hint: the bridge produces exactly one
event iff the collector accepts the record's own level and target and the target is not ignored — and none otherwise —
and that event carries the record's message, target, level, file, line and module path (absent stays absent) -/
theorem bridge_iff (ign : List String) (c : Coll) (hc : SoundHint c) (r : Record) :
    (c.accepts r.level r.target = true ∧ ignored ign r.target = false →
       bridge ign c r = [{ level := r.level, target := r.target, message := r.message, modulePath := r.modulePath, file := r.file, line := r.line }]) ∧
    (¬ (c.accepts r.level r.target = true ∧ ignored ign r.target = false) → bridge ign c r = []) := by
  rw [bridge_eq ign c hc r]
  cases c.accepts r.level r.target <;> cases ignored ign r.target <;> simp [norm]

/-- **C18.levels_bijection_monotone** — the conversion between `log::Level` and `tracing::Level` is C19's bijection
(restated here: the bridge and the `log` feature use those tables) -/
theorem levels_bijection_monotone (l : TM.Gen.Levels.Lvl) :
    TM.Gen.Levels.levelAsTrace (TM.Gen.Levels.levelAsLog l) = l ∧ TM.Gen.Levels.levelAsLog (TM.Gen.Levels.levelAsTrace l) = l :=
  ⟨(C19.log_bijection_level l).1, (C19.log_bijection_level l).2.1⟩

def emitOf : Op → Option (Nat × String × String)
  | .emit l t x => some (l, t, x)
  | _ => none

/-- `dispatch::EXISTS` is a latch (every installation sets it, nothing clears it) and, by `lstep_out`, the only thing the log
gate reads: not the count of live scoped guards -/
theorem lstep_exists (s : LState) (op : Op) : (lstep s op).1.exists_ = (s.exists_ || isInstall op) := by
  obtain ⟨-, -, -, hExistsSetBySetDefault, hExistsSetBySetGlobal, -⟩ := code_facts
  cases op <;> simp [lstep, isInstall, hExistsSetBySetDefault, hExistsSetBySetGlobal]

theorem lstep_out (s : LState) (op : Op) : (lstep s op).2 = if s.exists_ then [] else (emitOf op).toList := by
  obtain ⟨hHasBeenSetReadsExists, -, -, -, -, hLogGateIsNotHasBeenSet, hTracingLogChecksLoggerThenLogs, -⟩ := code_facts
  cases op <;> cases h : s.exists_ <;>
    simp [lstep, emitOf, h, hHasBeenSetReadsExists, hLogGateIsNotHasBeenSet, hTracingLogChecksLoggerThenLogs]

theorem exists_monotone (s : LState) (op : Op) (h : s.exists_ = true) : (lstep s op).1.exists_ = true := by
  rw [lstep_exists, h, Bool.true_or]

theorem lrun_getElem? (ops : List Op) (s : LState) (i : Nat) :
    (lrun s ops)[i]? =
      ops[i]?.map fun op => if s.exists_ || (ops.take i).any isInstall then [] else (emitOf op).toList := by
  induction ops generalizing s i with
  | nil => rfl
  | cons op rest ih =>
    cases i with
    | zero => simp [lrun, lstep_out]
    | succ j =>
      -- one step shifts the index by one and turns the state's flag into `s.exists_ || isInstall op` (`lstep_exists`):
      -- the hypothesis for that state is the claim, up to associativity of `||`
      simp [lrun, ih, lstep_exists, Bool.or_assoc]

/-- **C18.log_until_installed** — with the `log` feature, for EVERY history of emissions, scoped / global collector
installations and guard drops: an emission yields exactly one log record (its own level, target and text) iff NO collector
has been installed at any earlier point of the history — dropping the last scoped guard does not re-open the gate -/
theorem log_until_installed (pre : List Op) (lvl : Nat) (tgt text : String) (post : List Op) :
    (lrun LState.init (pre ++ .emit lvl tgt text :: post))[pre.length]? =
      some (if pre.any isInstall then [] else [(lvl, tgt, text)]) := by
  rw [lrun_getElem?, List.getElem?_append_right (Nat.le_refl _), Nat.sub_self, List.take_left']
  · simp [LState.init, emitOf]
  · rfl

/-- **C18.bridge_history** — for EVERY sequence of log records (any length), ignore list and collector with a sound hint: what
the collector receives through the bridge is exactly the accepted, not ignored records, each as its own normalized event, in the
order they were logged — none lost, none invented, none relabelled, none reordered -/
theorem bridge_history (ign : List String) (c : Coll) (hc : SoundHint c) (rs : List Record) :
    rs.flatMap (bridge ign c) =
      (rs.filter (fun r => c.accepts r.level r.target && !ignored ign r.target)).map norm := by
  induction rs with
  | nil => rfl
  | cons r rs ih => rw [List.flatMap_cons, ih, bridge_eq ign c hc r, List.filter_cons]; split <;> rfl

theorem lrun_flatten (ops : List Op) (s : LState) :
    (lrun s ops).flatten = if s.exists_ then [] else (ops.takeWhile (fun op => !isInstall op)).filterMap emitOf := by
  induction ops generalizing s with
  | nil => cases s.exists_ <;> rfl
  | cons op rest ih =>
    simp only [lrun, List.flatten_cons, lstep_out, ih, lstep_exists, List.takeWhile_cons]
    cases s.exists_
    · cases hi : isInstall op
      · simp only [Bool.or_false, Bool.false_eq_true, if_false, Bool.not_false, if_true, List.filterMap_cons]
        cases emitOf op <;> rfl
      · -- an installation emits nothing itself and closes the gate for all of `rest`; `emit` / `dropGuard` are not installations
        cases op <;> first | rfl | cases hi
    · rfl

private theorem closed_gate_silent (ops : List Op) (s : LState) (h : s.exists_ = true) : (lrun s ops).flatten = [] := by
  rw [lrun_flatten, h]; rfl

/-- **C18.log_history_exact** — with the `log` feature, for EVERY history: the complete sequence of log records is exactly the
emissions that precede the first collector installation (scoped or global), each with its own level, target and text, in order;
nothing after it, whatever guards are dropped later -/
theorem log_history_exact (ops : List Op) :
    (lrun LState.init ops).flatten = (ops.takeWhile (fun op => !isInstall op)).filterMap emitOf :=
  lrun_flatten ops LState.init

example : (lrun LState.init [.emit 3 "t" "a", .setDefault, .emit 3 "t" "b", .dropGuard, .emit 3 "t" "c"]).map (·.length) = [1, 0, 0, 0, 0] := by decide
example : (bridge ["hyper"] { maxLevel := 3, accepts := fun l t => decide (l ≤ 3) && t != "noisy" } ⟨2, "app", "hi", some "m", none, some 7⟩).length = 1 := by decide
example : (lrun LState.init [.emit 3 "t" "a", .dropGuard, .emit 2 "u" "b", .setDefault, .emit 3 "t" "c", .dropGuard, .emit 3 "t" "d"]).flatten =
    [(3, "t", "a"), (2, "u", "b")] := by decide

end C18
