/-
C01, first hits on several threads — "…they never suppress a delivery the collector would accept and never
cause one it would reject, no matter which other collectors were created, dropped or re-evaluated before …
over several threads … including the first hit of a callsite".

The sequential histories of Props/C01 take each registry operation as one step.  When a callsite's first hit
runs while another thread creates a collector, what keeps the cached interest sound is the lock discipline of
`callsite::register` (the read lock spans computing the interest AND linking the callsite): that is C04's
transition system, whose facts are extracted from callsite.rs / lib.rs on every run.  Restated here as C01's
obligations.
-/
import TracingModel.Props.C01
import TracingModel.Props.C04

namespace C01
open TM.RegRace TM.Gen.RegistryLocks
open TM.Callsite (Cs)

/-- what callsite.rs and lib.rs say now about the registration paths (regenerated on every run) -/
theorem registration_lock_discipline :
    registerHoldsAcrossPush = true ∧ registerOrder = ["read", "compute", "push"] ∧
    registerDispatchOrder = ["write", "notify", "push", "rebuild"] ∧ rebuildCacheOrder = ["write", "rebuild"] ∧
    rebuildInterestOrder = ["retain", "for_each", "set_max"] ∧
    macroCas = true ∧ macroWinnerRegistersThenStores = true ∧ macroLoserSometimes = true ∧ macroRegisteredLoads = true :=
  C04.lock_discipline

/-- **C01.racing_first_hit_sound** — after EVERY interleaving of first hits, collector creations, drops and rebuilds on any
number of threads: a cached `never` means every live collector said never (no accepted delivery is suppressed), a cached
`always` means every live collector said always (no rejected delivery is caused), and MAX_LEVEL is not below any live
collector's hint.  `hclean`: no reload is between its mutate and its rebuild (see `C04.never_stranded`) -/
theorem racing_first_hit_sound (U : List Cs) (steps : List Step) (hin : ∀ st ∈ steps, C04.StepIn U st)
    (hclean : (C04.runCode U steps).dirty = false) :
    let s := C04.runCode U steps
    (∀ cs c, s.alive c = true →
        (s.cache cs = some .never → s.want c cs = .never) ∧ (s.cache cs = some .always → s.want c cs = .always)) ∧
    (∀ c, s.alive c = true → s.hint c ≤ s.maxLevel) :=
  C04.never_stranded U steps hin hclean

end C01
