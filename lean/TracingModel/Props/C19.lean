/-
C19 — "Levels and level filters form one consistent total order; text round-trips"

  Verbosity levels and level filters are totally ordered OFF < ERROR < WARN < INFO < DEBUG <
  TRACE; every comparison operator between any two of them (level with level, level with
  filter, filter with filter) agrees with that order and with every other operator, 'level
  enabled by filter' means level <= filter, printing then parsing any of them gives it back
  (names in any letter case and the documented digits are accepted, anything else is
  rejected), and the globally published maximum level reads back as exactly the value that
  was set.

Model: Gen/Levels.lean (regenerated from metadata.rs and tracing-log/src/lib.rs on every
run) + Core/Levels.lean.  Specification: Spec/LevelOrder.lean (ranks, accepted language).
-/
import TracingModel.Core.Levels
import TracingModel.Spec.LevelOrder

namespace C19
open TM.Gen.Levels TM.Levels
open TM (ofString)
open TM.Spec.LevelOrder (rank frank ofRank fOfRank name fname numeral value caseVariant acceptLevel acceptFilter levelsInOrder filtersInOrder lower)

/- The operators.  `Lvl` and `Flt` are finite, so a statement quantified over them is decided by running it on every value;
each theorem up to `log_bijection_filter` is one such run over the regenerated table. -/

instance decForallLvl {p : Lvl → Prop} [DecidablePred p] : Decidable (∀ l, p l) :=
  decidable_of_iff (∀ l ∈ allLvl, p l) ⟨fun h l => h l (by cases l <;> decide), fun h l _ => h l⟩

instance decForallFlt {p : Flt → Prop} [DecidablePred p] : Decidable (∀ f, p f) :=
  decidable_of_iff (p none ∧ ∀ l, p (some l))
    ⟨fun h f => match f with | none => h.1 | some l => h.2 l, fun h => ⟨h _, fun _ => h _⟩⟩

/-- **C19.ops_LL** (C19.all_ops_agree, level × level) — every operator is the rank order -/
theorem ops_LL (a b : Lvl) :
    LL_lt a b = decide (rank a < rank b) ∧ LL_le a b = decide (rank a ≤ rank b) ∧
    LL_gt a b = decide (rank a > rank b) ∧ LL_ge a b = decide (rank a ≥ rank b) ∧
    LL_eq a b = decide (rank a = rank b) ∧
    LL_cmp a b = compare (rank a) (rank b) ∧ LL_partial_cmp a b = some (compare (rank a) (rank b)) ∧
    rank (LL_max a b) = max (rank a) (rank b) ∧ rank (LL_min a b) = min (rank a) (rank b) := by
  revert a b; decide

/-- **C19.ops_LF** (C19.all_ops_agree, level × filter) -/
theorem ops_LF (a : Lvl) (b : Flt) :
    LF_lt a b = decide (rank a < frank b) ∧ LF_le a b = decide (rank a ≤ frank b) ∧
    LF_gt a b = decide (rank a > frank b) ∧ LF_ge a b = decide (rank a ≥ frank b) ∧
    LF_eq a b = decide (rank a = frank b) ∧
    LF_partial_cmp a b = some (compare (rank a) (frank b)) := by
  revert a b; decide

/-- **C19.ops_FL** (C19.all_ops_agree, filter × level) -/
theorem ops_FL (a : Flt) (b : Lvl) :
    FL_lt a b = decide (frank a < rank b) ∧ FL_le a b = decide (frank a ≤ rank b) ∧
    FL_gt a b = decide (frank a > rank b) ∧ FL_ge a b = decide (frank a ≥ rank b) ∧
    FL_eq a b = decide (frank a = rank b) ∧
    FL_partial_cmp a b = some (compare (frank a) (rank b)) := by
  revert a b; decide

/-- **C19.ops_FF** (C19.all_ops_agree, filter × filter) -/
theorem ops_FF (a b : Flt) :
    FF_lt a b = decide (frank a < frank b) ∧ FF_le a b = decide (frank a ≤ frank b) ∧
    FF_gt a b = decide (frank a > frank b) ∧ FF_ge a b = decide (frank a ≥ frank b) ∧
    FF_eq a b = decide (frank a = frank b) ∧
    FF_cmp a b = compare (frank a) (frank b) ∧ FF_partial_cmp a b = some (compare (frank a) (frank b)) ∧
    frank (FF_max a b) = max (frank a) (frank b) ∧ frank (FF_min a b) = min (frank a) (frank b) := by
  revert a b; decide

/-- ranks are injective: the order is total and antisymmetric on the values themselves -/
theorem rank_injective (a b : Lvl) (h : rank a = rank b) : a = b := by
  revert a b; decide

theorem frank_injective (a b : Flt) (h : frank a = frank b) : a = b := by
  revert a b; decide

/-- **C19.enabled_is_le** — "level enabled by filter" (`level <= filter`) is `≤` on ranks -/
theorem enabled_is_le (l : Lvl) (f : Flt) : LF_le l f = decide (rank l ≤ frank f) := (ops_LF l f).2.1

theorem off_enables_nothing (l : Lvl) : LF_le l none = false := by
  revert l; decide

/-- **C19.repr_agree** (C19.conversions_roundtrip) — conversions round-trip: `From<Level>`/`into_level` are `some`/identity in the model
(`LevelFilter(Option<Level>)`); the usize encodings of the two types agree, and are injective (`repr_injective`) -/
theorem repr_agree (l : Lvl) : filterRepr (some l) = levelRepr l := rfl

theorem repr_injective (a b : Flt) (h : filterRepr a = filterRepr b) : a = b := by
  revert a b; decide

/-- **C19.max_level_readback** — `current()` after `set_max(f)` is exactly `f` (never the
`unreachable!` arm) -/
theorem max_level_readback (f : Flt) : currentAfterSet f = some f := by
  revert f; decide

/-- **C19.log_bijection_level** (C19.log_bijection; filters: `log_bijection_filter`) — the `log` ↔ `tracing` conversions are mutually
inverse and keep the rank (so they preserve the order) -/
theorem log_bijection_level (l : Lvl) :
    levelAsTrace (levelAsLog l) = l ∧ levelAsLog (levelAsTrace l) = l ∧ rank (levelAsLog l) = rank l := by
  revert l; decide

theorem log_bijection_filter (f : Flt) :
    filterAsTrace (filterAsLog f) = f ∧ filterAsLog (filterAsTrace f) = f ∧ frank (filterAsLog f) = frank f := by
  revert f; decide

/- Text (every string).  The finite facts from here on run the parser on `ofString` of string literals.  Decoding a literal
(UTF-8 bytes back to scalar values) is slow in the elaborator's evaluator, so these are evaluated by the kernel alone. -/

/-- **C19.parse_display_level** (C19.parse_display) — parsing what `Display` prints gives the value back (filters: `parse_display_filter`) -/
theorem parse_display_level (l : Lvl) :
    parseLevel (ofString (levelDisplay l)) = some l ∧ levelAsStr l = levelDisplay l := by
  revert l; decide +kernel

theorem parse_display_filter (f : Flt) : parseFilter (ofString (filterDisplay f)) = some f := by
  revert f; decide +kernel

theorem digits_roundtrip_level (l : Lvl) : parseLevel (ofString (toString (rank l))) = some l := by
  revert l; decide +kernel

theorem digits_roundtrip_filter (f : Flt) : parseFilter (ofString (toString (frank f))) = some f := by
  revert f; decide +kernel

private theorem isDigit_same (c : Nat) : TM.Levels.isDigit c = TM.Spec.LevelOrder.isDigit c := rfl

private theorem all_digit_iff (s : TM.Str) :
    (s.all TM.Levels.isDigit) = (s.all TM.Spec.LevelOrder.isDigit) := rfl

private theorem lower_same (c : Nat) : asciiLower c = lower c := rfl

private def V (cs : TM.Str) (acc : Nat) : Nat := cs.foldl (fun a c => a * 10 + (c - 48)) acc

private theorem V_ge (cs : TM.Str) (acc : Nat) : acc ≤ V cs acc := by
  induction cs generalizing acc with
  | nil => exact Nat.le_refl _
  | cons c cs ih => exact Nat.le_trans (by omega) (ih (acc * 10 + (c - 48)))

/-- on digit strings the checked parser computes the unbounded value, or fails exactly when the
value does not fit 64 bits -/
private theorem parseDigits_spec (cs : TM.Str) (acc : Nat) (hacc : acc < USIZE_LIMIT) :
    parseDigits cs acc =
      if cs.all TM.Levels.isDigit = true ∧ V cs acc < USIZE_LIMIT then some (V cs acc) else none := by
  fun_induction parseDigits cs acc with
  | case1 => exact (if_pos ⟨rfl, hacc⟩).symm
  | case2 c cs acc hd hv ih =>
    rw [ih hv]
    simp only [List.all_cons, hd, Bool.true_and]
    rfl
  | case3 c cs acc _ hv => exact (if_neg fun h => hv (Nat.lt_of_le_of_lt (V_ge cs _) h.2)).symm
  | case4 c cs acc hd =>
    simp only [List.all_cons, Bool.and_eq_true]
    exact (if_neg fun h => hd h.1.1).symm

theorem numeral_cons (c : Nat) (rest : TM.Str) (hc : c ≠ 43) :
    numeral (c :: rest) =
      if (c :: rest).isEmpty || !(c :: rest).all TM.Spec.LevelOrder.isDigit then none else some (value (c :: rest)) := by
  unfold numeral
  split
  · rename_i h; cases h; exact absurd rfl hc
  · rfl

theorem parseUsize_cons (c : Nat) (rest : TM.Str) (hc : c ≠ 43) :
    parseUsize (c :: rest) = parseDigits (c :: rest) 0 := by
  unfold parseUsize
  split
  · rename_i h; cases h
  · rename_i h; cases h; exact absurd rfl hc
  · rfl

theorem parseUsize_spec (s : TM.Str) :
    parseUsize s = (numeral s).bind (fun v => if v < USIZE_LIMIT then some v else none) := by
  have core : ∀ ds : TM.Str, ds ≠ [] → parseDigits ds 0 =
      (if ds.isEmpty || !ds.all TM.Spec.LevelOrder.isDigit then none else some (value ds)).bind
        (fun v => if v < USIZE_LIMIT then some v else none) := by
    intro ds h
    rw [parseDigits_spec ds 0 (by decide), List.isEmpty_eq_false_iff.mpr h, ← all_digit_iff]
    cases ds.all TM.Levels.isDigit <;> simp [V, value]
  cases s with
  | nil => rfl
  | cons c rest =>
    by_cases hc : c = 43
    · subst hc
      cases rest with
      | nil => rfl
      | cons d r => exact core (d :: r) (List.cons_ne_nil _ _)
    · rw [parseUsize_cons c rest hc, numeral_cons c rest hc]
      exact core _ (List.cons_ne_nil _ _)

/-- comparing against an all-lowercase name: `eq_ignore_ascii_case` is "is a case variant" -/
theorem eqIgnore_lower (s n : TM.Str) (hn : ∀ c ∈ n, lower c = c) :
    eqIgnoreAsciiCase s n = (s.map lower == n) := by
  induction s generalizing n with
  | nil => cases n <;> rfl
  | cons a s ih =>
    cases n with
    | nil => rfl
    | cons b n =>
      rw [eqIgnoreAsciiCase, lower_same, lower_same, hn b List.mem_cons_self,
        ih n fun c hc => hn c (List.mem_cons_of_mem _ hc), List.map_cons, List.cons_beq_cons]

theorem lower_fix {c : Nat} (h : c < 65 ∨ 90 < c) : lower c = c :=
  if_neg (by simp only [Bool.and_eq_true, decide_eq_true_eq]; omega)

/-- `hnm`: the names are written in letters from `a` (97) on, which `lower` leaves alone -/
theorem firstName_names {α} (nm : α → String) (xs : List α) (hnm : ∀ x ∈ xs, ∀ c ∈ ofString (nm x), 97 ≤ c)
    (s : TM.Str) : firstName s (xs.map fun x => (nm x, x)) = xs.find? fun x => caseVariant s (nm x) := by
  induction xs with
  | nil => rfl
  | cons x xs ih =>
    rw [List.map_cons, firstName, List.find?_cons, ih fun y hy => hnm y (List.mem_cons_of_mem _ hy),
      show eqIgnoreAsciiCase s (ofString (nm x)) = caseVariant s (nm x) from
        eqIgnore_lower s _ fun c hc => lower_fix (.inr (by have := hnm x List.mem_cons_self c hc; omega))]
    cases caseVariant s (nm x) <;> rfl

/-- a numeral starts with `+` or a digit, a case variant of a word of letters from `a` on with a letter -/
theorem numeral_not_name {s : TM.Str} {v : Nat} (h : numeral s = some v) {n : String}
    (hn : ∀ c ∈ ofString n, 97 ≤ c) : caseVariant s n = false := by
  cases s with
  | nil => cases h
  | cons c rest =>
    have hc : c ≤ 57 := by
      by_cases h43 : c = 43
      · omega
      · rw [numeral_cons c rest h43, List.all_cons] at h
        cases hd : TM.Spec.LevelOrder.isDigit c
        · rw [hd] at h; cases h
        · simp only [TM.Spec.LevelOrder.isDigit, Bool.and_eq_true, decide_eq_true_eq] at hd
          exact hd.2
    unfold caseVariant
    cases hN : ofString n with
    | nil => rfl
    | cons a t =>
      have : 97 ≤ a := hn a (hN ▸ List.mem_cons_self)
      rw [List.map_cons, List.cons_beq_cons, lower_fix (.inl (by omega)),
        (beq_eq_false_iff_ne (a := c) (b := a)).mpr (by omega)]
      rfl

/-- the checked `usize` parse followed by a digit table that has no entry beyond `usize`: the unbounded value decides -/
theorem bind_parseUsize {α} (g : Nat → Option α) (hg : ∀ v, USIZE_LIMIT ≤ v → g v = none) (s : TM.Str) :
    (parseUsize s).bind g = (numeral s).bind g := by
  rw [parseUsize_spec]
  cases numeral s with
  | none => rfl
  | some v =>
    by_cases hv : v < USIZE_LIMIT
    · rw [Option.bind_some, if_pos hv]
    · rw [Option.bind_some, if_neg hv, Option.bind_some, hg v (Nat.le_of_not_lt hv)]; rfl

theorem levelOfDigit_eq : levelOfDigit = ofRank := by
  funext n
  match n with
  | 0 | 1 | 2 | 3 | 4 | 5 => rfl
  | n + 6 => rfl

theorem filterOfDigit_eq : filterOfDigit = fOfRank := by
  funext n
  match n with
  | 0 | 1 | 2 | 3 | 4 | 5 => rfl
  | n + 6 => rfl

private theorem ofRank_big (v : Nat) (h : USIZE_LIMIT ≤ v) : ofRank v = none ∧ fOfRank v = none := by
  obtain ⟨k, rfl⟩ : ∃ k, v = k + 6 := ⟨v - 6, by unfold USIZE_LIMIT at h; omega⟩
  exact ⟨rfl, rfl⟩

theorem fname_letters (f : Flt) : ∀ c ∈ ofString (fname f), 97 ≤ c := by
  revert f; decide +kernel

/-- **C19.accepted_language_level** (C19.accepted_language, Level) — for EVERY string, `Level::from_str` accepts it iff it is
in the documented language (a decimal numeral of value 1–5, or a level name in any letter
case) and then yields the level that text denotes; every other string is rejected.  In
particular a numeral too large for `usize` is rejected, not wrapped. -/
theorem accepted_language_level (s : TM.Str) : parseLevel s = acceptLevel s := by
  have hnm : ∀ l ∈ levelsInOrder, ∀ c ∈ ofString (name l), 97 ≤ c := fun l _ => fname_letters (some l)
  unfold parseLevel acceptLevel
  -- the `show` compares the generated name table with the specification's names, by unfolding both
  rw [levelOfDigit_eq, bind_parseUsize ofRank fun v h => (ofRank_big v h).1,
    show firstName s levelNames = _ from firstName_names name levelsInOrder hnm s]
  cases hn : numeral s with
  | none => rfl
  | some v =>
    dsimp only [Option.bind_some]
    cases ofRank v with
    | some l => rfl
    | none => exact List.find?_eq_none.mpr fun l hl => by rw [numeral_not_name hn (hnm l hl)]; decide

/-- **C19.accepted_language_filter_partial** (C19.accepted_language, LevelFilter) — for every NON-EMPTY string,
`LevelFilter::from_str` accepts exactly the documented language (numeral 0–5, a level name or
`off` in any case).  The excluded input is the empty string: see `f16_witness`. -/
theorem accepted_language_filter_partial (s : TM.Str) (hne : s ≠ []) : parseFilter s = acceptFilter s := by
  have hnm : ∀ f ∈ filtersInOrder, ∀ c ∈ ofString (fname f), 97 ≤ c := fun f _ => fname_letters f
  have hex : firstExact s filterExact = none := by
    cases s with
    | nil => exact absurd rfl hne
    | cons c r => rfl
  unfold parseFilter acceptFilter
  rw [filterOfDigit_eq, bind_parseUsize fOfRank fun v h => (ofRank_big v h).2, hex,
    show firstName s filterNames = _ from firstName_names fname filtersInOrder hnm s]
  cases hn : numeral s with
  | none => rfl
  | some v =>
    dsimp only [Option.bind_some]
    cases fOfRank v with
    | some l => rfl
    | none => exact List.find?_eq_none.mpr fun f hf => by rw [numeral_not_name hn (hnm f hf)]; decide

/-- **C19.f16_witness** — the full statement is false at exactly one input: the empty string is
not in the documented language, yet `"".parse::<LevelFilter>()` is `Ok(ERROR)`. -/
theorem f16_witness : parseFilter [] = some (some .error) ∧ acceptFilter [] = none := by decide +kernel

/-- `hn` is implied by `h` (`numeral_not_name`); it is taken as a hypothesis so that `any_case_level`, whose statement has it,
can pass it on -/
theorem case_variant_level (s : TM.Str) (l : Lvl) (h : caseVariant s (name l) = true) (hn : numeral s = none) :
    parseLevel s = some l := by
  have hs : s.map lower = ofString (name l) := beq_iff_eq.mp h
  have names : ∀ l l' : Lvl, (ofString (name l) == ofString (name l')) = decide (l' = l) := by decide +kernel
  rw [accepted_language_level, acceptLevel, hn]
  show levelsInOrder.find? (fun l' => s.map lower == ofString (name l')) = some l
  rw [hs, funext (names l)]
  clear h hs
  revert l; decide

/-- every letter-case pattern of every name is accepted -/
theorem any_case_level (s : TM.Str) (l : Lvl) (h : caseVariant s (name l) = true) (hn : numeral s = none) :
    ∃ l', parseLevel s = some l' :=
  ⟨l, case_variant_level s l h hn⟩

example : parseLevel (ofString "wArN") = some .warn := by decide +kernel
example : parseLevel (ofString "+3") = some .info := by decide +kernel
example : parseLevel (ofString "18446744073709551617") = none := by decide +kernel
example : parseLevel (ofString "inf0") = none := by decide +kernel
example : parseFilter (ofString "OFF") = some none := by decide +kernel

end C19
