/-
C11 — "Filter directives: the most specific match wins, and filters round-trip"

  A target/level directive set (Targets or EnvFilter) enables a span or event exactly when the
  most specific directive matching its target (longest matching target prefix, then more field
  constraints) allows its level, and nothing when no directive matches; Targets and EnvFilter
  agree on every directive string both accept, would_enable agrees with actual filtering, and
  formatting a parsed filter and parsing it again yields the same filter. Span-scoped directives
  raise the enabled level exactly while a matching span (by name and recorded field values) is
  entered on the thread, and for that span itself.

Model: Core/Directive.lean (static directive sets, Targets text forms).
-/
import TracingModel.Core.Directive
import TracingModel.Lemmas.Lists

namespace C11
open TM.Directive TM.Lists

/-- specificity of a directive's target: 0 without one, else its length + 1 (so that an empty target still beats none) -/
def tlen (d : SDir) : Nat := match d.target with | none => 0 | some t => t.length + 1

/-- `a` is at least as specific as `b` -/
def specGe (a b : SDir) : Prop := tlen a > tlen b ∨ (tlen a = tlen b ∧ a.fields.length ≥ b.fields.length)

theorem specGe_refl (a : SDir) : specGe a a := Or.inr ⟨rfl, Nat.le_refl _⟩

theorem specGe_trans {a b c : SDir} (h1 : specGe a b) (h2 : specGe b c) : specGe a c := by
  unfold specGe at *; omega

private theorem optCmp_len (a b : SDir) :
    optCmp natCmp (a.target.map List.length) (b.target.map List.length) = compare (tlen a) (tlen b) := by
  unfold tlen
  cases a.target <;> cases b.target
  · rfl
  · exact (Nat.compare_eq_lt.mpr (Nat.succ_pos _)).symm
  · exact (Nat.compare_eq_gt.mpr (Nat.succ_pos _)).symm
  · simp only [optCmp, Option.map_some, natCmp, Nat.compare_eq_ite_lt, Nat.add_lt_add_iff_right]

/-- what the (reversed) order says about specificity -/
theorem cmpDir_spec (a b : SDir) :
    (cmpDir a b ≠ .gt → specGe a b) ∧ (cmpDir a b ≠ .lt → specGe b a) := by
  unfold cmpDir specGe
  rw [optCmp_len, natCmp]
  have rev_lt : rev .lt = .gt := rfl
  have rev_gt : rev .gt = .lt := rfl
  cases h1 : compare (tlen a) (tlen b) with
  | lt => have := Nat.compare_eq_lt.mp h1; exact ⟨fun h => absurd rev_lt h, fun _ => .inl this⟩
  | gt => have := Nat.compare_eq_gt.mp h1; exact ⟨fun _ => .inl this, fun h => absurd rev_gt h⟩
  | eq =>
    have e := Nat.compare_eq_eq.mp h1
    cases h2 : compare a.fields.length b.fields.length with
    | lt => have := Nat.compare_eq_lt.mp h2; exact ⟨fun h => absurd rev_lt h, fun _ => .inr ⟨e.symm, Nat.le_of_lt this⟩⟩
    | gt => have := Nat.compare_eq_gt.mp h2; exact ⟨fun _ => .inr ⟨e, Nat.le_of_lt this⟩, fun h => absurd rev_gt h⟩
    | eq =>
      have e2 := Nat.compare_eq_eq.mp h2
      exact ⟨fun _ => .inr ⟨e, Nat.le_of_eq e2.symm⟩, fun _ => .inr ⟨e.symm, Nat.le_of_eq e2⟩⟩

/-- the vector is kept sorted: every directive is at least as specific as all later ones -/
def Sorted (l : List SDir) : Prop := l.Pairwise specGe

theorem mem_insertDir (d x : SDir) (l : List SDir) (h : x ∈ insertDir d l) : x = d ∨ x ∈ l := by
  fun_induction insertDir d l with
  | case1 => exact Or.inl (List.mem_singleton.mp h)
  | case2 => exact List.mem_cons.mp h
  | case3 => exact (List.mem_cons.mp h).imp_right (List.mem_cons_of_mem _)
  | case4 _ _ _ ih =>
    rcases List.mem_cons.mp h with rfl | h
    · exact Or.inr List.mem_cons_self
    · exact (ih h).imp_right (List.mem_cons_of_mem _)

/-- **C11.insert_sorted** (C11.add_sorted) — `DirectiveSet::add` keeps the vector sorted by specificity -/
theorem insert_sorted (d : SDir) (l : List SDir) (h : Sorted l) : Sorted (insertDir d l) := by
  induction l with
  | nil => exact List.pairwise_singleton _ _
  | cons e rest ih =>
    obtain ⟨he, hrest⟩ := List.pairwise_cons.mp h
    have before (hc : cmpDir d e ≠ .gt) : ∀ x ∈ rest, specGe d x :=
      fun x hx => specGe_trans ((cmpDir_spec d e).1 hc) (he x hx)
    unfold insertDir
    split
    · next hc =>
      have hc : cmpDir d e ≠ .gt := by rw [hc]; decide
      exact List.pairwise_cons.mpr ⟨List.forall_mem_cons.mpr ⟨(cmpDir_spec d e).1 hc, before hc⟩, h⟩
    · next hc => exact List.pairwise_cons.mpr ⟨before (by rw [hc]; decide), hrest⟩
    · next hc =>
      refine List.pairwise_cons.mpr ⟨fun x hx => ?_, ih hrest⟩
      rcases mem_insertDir d x rest hx with hxd | hx
      · exact hxd ▸ (cmpDir_spec d e).2 (by rw [hc]; decide)
      · exact he x hx

theorem build_sorted (ds : List SDir) : Sorted (build ds).dirs :=
  List.foldlRecOn ds DSet.add (motive := fun s : DSet => Sorted s.dirs) List.Pairwise.nil
    fun s h d _ => insert_sorted d s.dirs h

/-- **C11.most_specific_wins** — for EVERY directive set built by any sequence of insertions and
every span/event metadata: if some directive matches, the decision is taken by a matching
directive that is at least as specific (longer target prefix, then more field constraints) as
every other matching one, and it enables exactly the levels up to its own; if none matches,
nothing is enabled.  (Which of two EQUALLY specific matching directives wins is left open by the
property; the code takes the lexicographically later.) -/
theorem most_specific_wins (ds : List SDir) (m : Meta) :
    (∃ d, d ∈ (build ds).dirs ∧ cares d m = true ∧
          (∀ d' ∈ (build ds).dirs, cares d' m = true → specGe d d') ∧
          enabled (build ds) m = decide (m.level ≤ d.level)) ∨
    ((∀ d' ∈ (build ds).dirs, cares d' m = false) ∧ enabled (build ds) m = false) := by
  unfold enabled
  cases hf : (build ds).dirs.find? (fun d => cares d m) with
  | none => exact Or.inr ⟨fun d' hd' => Bool.eq_false_iff.mpr (List.find?_eq_none.mp hf d' hd'), rfl⟩
  | some d =>
    exact Or.inl ⟨d, List.mem_of_find?_eq_some hf, List.find?_some (p := fun d => cares d m) hf,
      find?_pairwise specGe_refl (build_sorted ds) hf, rfl⟩

/-- **C11.would_enable_agrees_partial** — for directive sets WITHOUT field constraints,
`would_enable(target, level)` is exactly what filtering does for any span or event with that
target and level.  (With field constraints it is not: finding F7.) -/
theorem would_enable_agrees_partial (s : DSet) (m : Meta) (h : ∀ d ∈ s.dirs, d.fields = []) :
    wouldEnable s m.target m.level = enabled s m := by
  unfold wouldEnable enabled
  rw [find?_congr (q := fun d => cares d m) fun d hd => by simp [caresTarget, cares, h d hd]]

/-- **C11.f7_witness** — the full statement is false with field constraints:
`foo[{bar}]=trace` — `would_enable("foo", INFO)` is false, but a span with target `foo` (spans
ignore field names) is enabled -/
theorem f7_witness :
    let s := build [{ target := some (TM.ofString "foo"), fields := [TM.ofString "bar"], level := 5 }]
    wouldEnable s (TM.ofString "foo") 3 = false ∧
    enabled s { target := TM.ofString "foo", level := 3, isEvent := false, fields := [] } = true := by decide

theorem maxLevel_foldl (ds : List SDir) (s : DSet) :
    (ds.foldl DSet.add s).maxLevel = ds.foldl (fun a d => max a d.level) s.maxLevel :=
  -- `DSet.add`'s `if d.level > m then d.level else m` is `max m d.level`
  (List.foldl_hom DSet.maxLevel fun s d => by show max _ _ = if _ then _ else _; split <;> omega).symm

/-- the published max level bounds every inserted level -/
theorem max_level_bound (ds : List SDir) : ∀ d ∈ ds, d.level ≤ (build ds).maxLevel := by
  rw [build, maxLevel_foldl]
  exact (le_foldl_max SDir.level ds _).2

theorem mem_build (ds : List SDir) (x : SDir) (h : x ∈ (build ds).dirs) : x ∈ ds :=
  List.foldlRecOn ds DSet.add (motive := fun s => ∀ x ∈ s.dirs, x ∈ ds)
    (fun _ hx => absurd hx List.not_mem_nil)
    (fun s ih d hd x hx => (mem_insertDir d x s.dirs hx).elim (· ▸ hd) (ih x)) x h

/-- so the `max_level` gate in front of `enabled` never changes a verdict -/
theorem enabled_le_maxLevel (s : DSet) (hb : ∀ d ∈ s.dirs, d.level ≤ s.maxLevel) (m : Meta)
    (h : enabled s m = true) : m.level ≤ s.maxLevel := by
  unfold enabled at h
  cases hf : s.dirs.find? (fun d => cares d m) with
  | none => rw [hf] at h; cases h
  | some d =>
    rw [hf] at h
    exact Nat.le_trans (of_decide_eq_true h) (hb d (List.mem_of_find?_eq_some hf))

theorem static_enabled_le_max (ds : List SDir) (m : Meta) (h : TM.Directive.enabled (build ds) m = true) :
    m.level ≤ (build ds).maxLevel :=
  enabled_le_maxLevel (build ds) (fun d hd => max_level_bound ds d (mem_build ds d hd)) m h

/-- tests (not the unbounded claim): text round trips of concrete Targets strings (`+kernel`: string literals are
decoded, see the note at the text part of Props/C19.lean) -/
example : (parseTargets (TM.ofString "app=info,app::db=trace,warn")).map displayTargets
    = some (TM.ofString "app::db=trace,app=info,warn") := by decide +kernel
example : (parseStatic (TM.ofString "foo[{bar,baz}]=debug")).map displayStatic = some (TM.ofString "foo[{bar,baz}]=debug") := by decide +kernel

end C11
