/-
C05, the deferred removal of a closed span's slot ("while any layer is handling that close the span's stored data is still
readable; afterwards the span is gone"), for every number of layers and every state of the thread's CLOSE_COUNT.

The model has both rules: the code as it stands (CLOSE_COUNT belongs to ONE span; the guards of a close that starts inside
another span's `on_close` count from zero and put the interrupted count back) and the code BEFORE the repair (one count for
the thread; finding F15).

`closed_span_is_removed_at_any_depth` and its two companions follow ONE release, of a span during whose close no layer
drops a handle.  `release_good` takes every release — handles that layers drop inside `on_close` included, nested to any
depth: when the call returns, CLOSE_COUNT and the span it counts for are what they were and every span closed on the way has
had its slot removed; hence `closed_spans_are_gone` after any sequence of drops made at top level.
-/
import TracingModel.Core.CloseGuard
import TracingModel.Gen.CloseGuardFacts

namespace C05
open TM.CloseGuard

/-- the four facts the model rests on, as the translator finds them in sharded.rs / layered.rs on this run: every frame takes
its guard (CLOSE_COUNT + 1, or a fresh count of 1 when another span's close is interrupted) before it asks the frame below, hands
`on_close` to its layer only when the span closed, and its guard — dropped on return — stores count - 1 and, iff it found the
count at 1, puts the interrupted count back and removes the slot -/
theorem close_guard_facts : TM.Gen.CloseGuardFacts.clearsAtCountOne = true ∧ TM.Gen.CloseGuardFacts.countPerSpan = true ∧
    TM.Gen.CloseGuardFacts.startCloseAddsOne = true ∧ TM.Gen.CloseGuardFacts.frameOrder = true := ⟨rfl, rfl, rfl, rfl⟩

def NoWill (wills : List Will) (k : Nat) : Prop := ∀ w ∈ wills, w.of ≠ k

theorem filter_noWill (wills : List Will) (k layer : Nat) (h : NoWill wills k) :
    wills.filter (fun w => w.layer == layer && w.of == k) = [] := by
  apply List.filter_eq_nil_iff.mpr
  intro w hw
  have := h w hw
  simp [this]

/-- the readable flags the layers see: the slot is there for all of them -/
def entries (k : Nat) (rd : Bool) (j : Nat) : List (Nat × Nat × Bool) := (List.range j).map (fun i => (i + 1, k, rd))

theorem entries_succ (k : Nat) (rd : Bool) (j : Nat) : entries k rd (j + 1) = entries k rd j ++ [(j + 1, k, rd)] := by
  simp [entries, List.range_succ]

section
variable {ps : Bool} {n : Nat} {parent : Nat → Option Nat} {wills : List Will} {rec : S → Nat → S} {k : Nat} {saved : Nat × Nat}
  {s : S}

theorem release_last (ps : Bool) {fuel : Nat} (href : s.refs k = 1) (hnew : s.closed.contains k = false) :
    release ps n parent wills (fuel + 1) s k =
      (List.range n).foldl (layerStep ps parent wills (release ps n parent wills fuel) k (s.closing, s.count))
        (if ps then { s with refs := upd s.refs k 0, closing := k + 1, count := n, closed := k :: s.closed }
         else { s with refs := upd s.refs k 0, count := s.count + n, closed := k :: s.closed }) := by
  conv => lhs; unfold release
  simp only [href, Nat.sub_self, ne_eq, not_true_eq_false, decide_false, hnew, Bool.or_self, Bool.false_eq_true, if_false]

theorem layerStep_noWill (hw : NoWill wills k) (i : Nat) :
    layerStep ps parent wills rec k saved s i =
      guardStep ps parent rec k saved { s with log := s.log ++ [(i + 1, k, !s.cleared.contains k)] } := by
  unfold layerStep runWills
  simp only [filter_noWill wills k (i + 1) hw, List.foldl_nil]

theorem layerStep_quiet (hw : NoWill wills k) (ht : s.count ≠ 1) (i : Nat) :
    layerStep ps parent wills rec k saved s i =
      { s with count := s.count - 1, log := s.log ++ [(i + 1, k, !s.cleared.contains k)] } := by
  have : (s.count == 1) = false := by simpa using ht
  rw [layerStep_noWill hw, guardStep]
  simp only [this, Bool.false_eq_true, if_false]

theorem loop_quiet (ps : Bool) (hw : NoWill wills k) (j : Nat) (ht : ∀ i, i < j → s.count - i ≠ 1) :
    (List.range j).foldl (layerStep ps parent wills rec k saved) s
      = { s with count := s.count - j, log := s.log ++ entries k (!s.cleared.contains k) j } := by
  induction j with
  | zero => simp [entries]
  | succ j ih =>
    rw [List.range_succ, List.foldl_append, ih (fun i hi => ht i (Nat.lt_succ_of_lt hi))]
    simp only [List.foldl_cons, List.foldl_nil]
    rw [layerStep_quiet hw (by simpa using ht j (Nat.lt_succ_self j))]
    simp [entries_succ, Nat.sub_add_eq]

/-- `htop`: the `n` guards of this close are the only ones counting (always so under the per-span rule).
`Option.elim`, not `match`: Lean would reuse a `match` here for the two theorems below and name theirs after this one. -/
theorem last_release_clears (ps : Bool) {fuel : Nat} (hn : 1 ≤ n) (htop : ps = false → s.count = 0) (href : s.refs k = 1)
    (hnew : s.closed.contains k = false) (hw : NoWill wills k) :
    release ps n parent wills (fuel + 1) s k
      = (let s' : S := { s with refs := upd s.refs k 0, closed := k :: s.closed, cleared := k :: s.cleared,
                                log := s.log ++ entries k (!s.cleared.contains k) n }
         (parent k).elim s' (release ps n parent wills fuel s')) := by
  obtain ⟨j, rfl⟩ : ∃ j, n = j + 1 := ⟨n - 1, by omega⟩
  rw [release_last ps href hnew, List.range_succ, List.foldl_append, loop_quiet ps hw j (fun i hi => by
    cases ps
    · show s.count + (j + 1) - i ≠ 1; omega
    · show j + 1 - i ≠ 1; omega)]
  simp only [List.foldl_cons, List.foldl_nil, layerStep_noWill hw, guardStep]
  -- after the `j` quiet frames the last guard reads exactly 1
  cases ps
  · have h1 : s.count + (j + 1) - j = 1 := by rw [htop rfl]; omega
    simp only [Bool.false_eq_true, ↓reduceIte, h1]
    cases parent k <;> simp [entries_succ, htop rfl]
  · have h1 : j + 1 - j = 1 := by omega
    simp only [↓reduceIte, h1]
    cases parent k <;> simp [entries_succ]

end

/-- **C05.closed_span_is_removed_at_any_depth** — the code as it stands (the count belongs to one span): a span whose last
reference goes — at top level or INSIDE any number of other spans' `on_close` calls, whatever CLOSE_COUNT holds at that moment —
is handed to each of the n layers exactly once, innermost first, its stored data readable every time; then the interrupted count
is put back, the slot is removed and the reference held on the parent is released.  For every n ≥ 1. -/
theorem closed_span_is_removed_at_any_depth (n : Nat) (hn : 1 ≤ n) (parent : Nat → Option Nat) (wills : List Will) (fuel : Nat) (s : S) (k : Nat)
    (href : s.refs k = 1) (hnew : s.closed.contains k = false) (hw : NoWill wills k) :
    release true n parent wills (fuel + 1) s k
      = (let s' : S := { s with refs := upd s.refs k 0, closed := k :: s.closed, cleared := k :: s.cleared,
                                log := s.log ++ entries k (!s.cleared.contains k) n }
         match parent k with
         | some p => release true n parent wills fuel s' p
         | none => s') :=
  (last_release_clears true hn (fun e => by cases e) href hnew hw).trans (by cases parent k <;> rfl)

/-- **C05.nested_close_never_cleared** (finding F15 — the code BEFORE its repair, one count for the thread — for every n, depth
and span): a last reference released while a close is being handled on the thread: every layer is told, the slot is never
removed, the parent's reference never released. -/
theorem nested_close_never_cleared (n : Nat) (parent : Nat → Option Nat) (wills : List Will) (fuel : Nat) (s : S) (k : Nat)
    (hdepth : 1 ≤ s.count) (href : s.refs k = 1) (hnew : s.closed.contains k = false) (hw : NoWill wills k) :
    release false n parent wills (fuel + 1) s k
      = { s with refs := upd s.refs k 0, closed := k :: s.closed, log := s.log ++ entries k (!s.cleared.contains k) n } := by
  rw [release_last false href hnew, loop_quiet false hw n (fun i hi => by show s.count + n - i ≠ 1; omega)]
  simp

/-- … while at top level (no close being handled) the old rule did what the property says -/
theorem old_rule_top_level (n : Nat) (hn : 1 ≤ n) (parent : Nat → Option Nat) (wills : List Will) (fuel : Nat) (s : S) (k : Nat)
    (htop : s.count = 0) (href : s.refs k = 1) (hnew : s.closed.contains k = false) (hw : NoWill wills k) :
    release false n parent wills (fuel + 1) s k
      = (let s' : S := { s with refs := upd s.refs k 0, closed := k :: s.closed, cleared := k :: s.cleared,
                                log := s.log ++ entries k (!s.cleared.contains k) n }
         match parent k with
         | some p => release false n parent wills fuel s' p
         | none => s') :=
  (last_release_clears false hn (fun _ => htop) href hnew hw).trans (by cases parent k <;> rfl)

/- F15, a concrete history: two layers; span 0 is the parent of span 1; span 2 is unrelated.  The user drops the handle of
0 (it stays open: its child is) and then the handle of 2; the inner layer owns the handle of 1 and drops it while it handles the
close of 2. -/

def wParent : Nat → Option Nat := fun k => if k = 1 then some 0 else none
def wWills : List Will := [{ layer := 1, of := 2, drops := 1 }]
def wRun (rule : Bool) : S :=
  let s := start 3 wParent
  let s := dropHandle rule 2 wParent wWills 10 s 0
  dropHandle rule 2 wParent wWills 10 s 2

/-- before the repair: 1 and 2 are closed and told to both layers, only 2's slot is removed; 1 stays readable and its parent 0 —
no handle left, its only child closed — is never closed -/
theorem f15_witness :
    (wRun false).closed = [1, 2] ∧ (wRun false).cleared = [2] ∧ (wRun false).held = [] ∧ (wRun false).count = 0 ∧
    (wRun false).log = [(1, 2, true), (1, 1, true), (2, 1, true), (2, 2, true)] := by decide

/-- with the count kept per span the same history ends with everything closed and gone, children before parents -/
theorem f15_repaired :
    (wRun true).closed = [0, 1, 2] ∧ (wRun true).cleared = [2, 0, 1] ∧ (wRun true).count = 0 ∧ (wRun true).closing = 0 ∧
    (wRun true).log = [(1, 2, true), (1, 1, true), (2, 1, true), (1, 0, true), (2, 0, true), (2, 2, true)] := by decide

/-- the premises of the three theorems are satisfiable (two layers, the start of the witness history, span 2) -/
example : (start 3 wParent).count = 0 ∧ (start 3 wParent).refs 2 = 1 ∧ (start 3 wParent).closed.contains 2 = false ∧ NoWill [] 2 :=
  ⟨rfl, by decide, rfl, fun _ h => by cases h⟩

/-- what one call leaves behind, relative to the state it started in -/
structure Good (s s' : S) : Prop where
  count : s'.count = s.count
  closing : s'.closing = s.closing
  gone : ∀ x, x ∈ s'.closed → x ∈ s.closed ∨ x ∈ s'.cleared
  keep : ∀ x, x ∈ s.cleared → x ∈ s'.cleared

theorem Good.of_eq {s s' : S} (h1 : s'.count = s.count) (h2 : s'.closing = s.closing) (h3 : s'.closed = s.closed)
    (h4 : s'.cleared = s.cleared) : Good s s' :=
  ⟨h1, h2, fun _ h => Or.inl (h3 ▸ h), fun _ h => h4 ▸ h⟩

theorem Good.refl (s : S) : Good s s := .of_eq rfl rfl rfl rfl

theorem Good.trans {a b c : S} (h1 : Good a b) (h2 : Good b c) : Good a c :=
  ⟨h2.count.trans h1.count, h2.closing.trans h1.closing,
   fun x hx => (h2.gone x hx).elim (fun hb => (h1.gone x hb).elim Or.inl (fun hc => Or.inr (h2.keep x hc))) Or.inr,
   fun x hx => h2.keep x (h1.keep x hx)⟩

section
variable {parent : Nat → Option Nat} {wills : List Will} {rec : S → Nat → S} (hrec : ∀ s k, Good s (rec s k))
include hrec

theorem runWills_good (k layer : Nat) (t : S) : Good t (runWills wills rec k layer t) := by
  unfold runWills
  refine List.foldlRecOn _ _ (Good.refl t) fun u hu w _ => hu.trans ?_
  split
  · exact (Good.of_eq rfl rfl rfl rfl : Good u { u with held := u.held.erase w.drops }).trans (hrec _ _)
  · exact Good.refl u

/-- the state between two frames of the close of `k` that started in `s`, `c` guards of `k` still counting: as if the call had
started with `k` closed and the count at `c`; after the last guard (`c = 0`) the call has returned -/
def Fr (s : S) (k : Nat) : Nat → S → Prop
  | 0, t => Good s t
  | c + 1, t => Good { s with count := c + 1, closing := k + 1, closed := k :: s.closed } t

theorem layerStep_fr {s : S} {k c : Nat} {t : S} (i : Nat) (h : Fr s k (c + 1) t) :
    Fr s k c (layerStep true parent wills rec k (s.closing, s.count) t i) := by
  unfold layerStep
  have h := (h.trans (.of_eq rfl rfl rfl rfl : Good t { t with log := t.log ++ [(i + 1, k, !t.cleared.contains k)] })).trans
    (runWills_good (wills := wills) hrec k (i + 1) _)
  generalize runWills wills rec k (i + 1) _ = u at h
  unfold guardStep
  cases c with
  | zero =>
    -- the last guard of `k`: the interrupted count comes back, the slot goes, the parent's reference is released
    have he : (u.count == 1) = true := by simp [h.count]
    simp only [he, if_true]
    have hu : Good s { u with count := s.count, closing := s.closing, cleared := k :: u.cleared } :=
      ⟨rfl, rfl,
       fun x hx => (h.gone x hx).elim
         (fun e => (List.mem_cons.mp e).elim (fun e => Or.inr (by simp [e])) Or.inl)
         (fun e => Or.inr (List.mem_cons_of_mem _ e)),
       fun x hx => List.mem_cons_of_mem _ (h.keep x hx)⟩
    cases parent k with
    | none => exact hu
    | some p => exact hu.trans (hrec _ p)
  | succ c =>
    -- a guard of `k` that is not the last one only counts down
    have hne : (u.count == 1) = false := by simp [h.count]
    simp only [hne, Bool.false_eq_true, if_false]
    exact ⟨by simp [h.count], h.closing, h.gone, h.keep⟩

theorem loop_fr {s : S} {k : Nat} (j : Nat) {c : Nat} {t : S} (h : Fr s k (c + j) t) :
    Fr s k c ((List.range j).foldl (layerStep true parent wills rec k (s.closing, s.count)) t) := by
  induction j generalizing c with
  | zero => exact h
  | succ j ih =>
    rw [List.range_succ, List.foldl_append]
    exact layerStep_fr hrec j (ih (by rw [Nat.add_right_comm]; exact h))

end

/-- **C05.release_good** — for every number of layers n ≥ 1, every set of handles the layers drop inside `on_close`, every state
and every span: when a release returns, CLOSE_COUNT and the span it counts for are what they were, every slot removed before is
still removed, and every span that is closed now either was closed before or has had its slot removed. -/
theorem release_good (n : Nat) (hn : 1 ≤ n) (parent : Nat → Option Nat) (wills : List Will) (fuel : Nat) :
    ∀ (s : S) (k : Nat), Good s (release true n parent wills fuel s k) := by
  induction fuel with
  | zero => intro s k; exact Good.refl s
  | succ fuel ih =>
    intro s k
    unfold release
    dsimp only
    split
    · exact .of_eq rfl rfl rfl rfl
    · obtain ⟨j, rfl⟩ : ∃ j, n = j + 1 := ⟨n - 1, by omega⟩
      have hstart : Fr s k (j + 1)
          { s with refs := upd s.refs k (s.refs k - 1), closing := k + 1, count := j + 1, closed := k :: s.closed } :=
        .of_eq rfl rfl rfl rfl
      exact loop_fr ih (j + 1) (c := 0) (by rw [Nat.zero_add]; exact hstart)

/-- the user's drops, one after the other, at top level -/
def drops (n : Nat) (parent : Nat → Option Nat) (wills : List Will) (fuel : Nat) (s : S) (ks : List Nat) : S :=
  ks.foldl (dropHandle true n parent wills fuel) s

theorem dropHandle_good (n : Nat) (hn : 1 ≤ n) (parent : Nat → Option Nat) (wills : List Will) (fuel : Nat) (s : S) (k : Nat) :
    Good s (dropHandle true n parent wills fuel s k) := by
  unfold dropHandle
  split
  · exact (Good.of_eq rfl rfl rfl rfl : Good s { s with held := s.held.erase k }).trans (release_good n hn parent wills fuel _ k)
  · exact Good.refl s

theorem drops_good (n : Nat) (hn : 1 ≤ n) (parent : Nat → Option Nat) (wills : List Will) (fuel : Nat) (s : S) (ks : List Nat) :
    Good s (drops n parent wills fuel s ks) :=
  List.foldlRecOn ks _ (Good.refl s) fun t ht k _ => ht.trans (dropHandle_good n hn parent wills fuel t k)

/-- **C05.closed_spans_are_gone** — "afterwards the span is gone", for every forest of spans, every n ≥ 1, every set of handles
dropped by layers inside `on_close` and every order of the user's drops: once the drops have returned, every span that was
closed has had its slot removed, and no guard is left counting. -/
theorem closed_spans_are_gone (n : Nat) (hn : 1 ≤ n) (m : Nat) (parent : Nat → Option Nat) (wills : List Will) (fuel : Nat) (ks : List Nat) :
    let s' := drops n parent wills fuel (start m parent) ks
    s'.count = 0 ∧ ∀ x, x ∈ s'.closed → x ∈ s'.cleared := by
  have g := drops_good n hn parent wills fuel (start m parent) ks
  refine ⟨g.count, fun x hx => ?_⟩
  rcases g.gone x hx with h | h
  · cases h
  · exact h

end C05
