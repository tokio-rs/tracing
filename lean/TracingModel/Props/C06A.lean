/-
C06, references taken concurrently — the current span of a thread stays the current span (and a parent stays readable from its
children) only as long as the references that entering it, creating children of it and cloning it take are all counted, also
when several threads take them on the same span at the same time.

Model: Core/AtomicCount.lean (one step = one atomic operation on the span's reference count) and, for threads as programs of
clone / drop / give, Core/HandleRace.lean; whether `clone_span` is ONE fetch_add is extracted from sharded.rs on every run.
-/
import TracingModel.Props.C06E
import TracingModel.Lemmas.AtomicCount
import TracingModel.Lemmas.HandleRace

namespace C06
open TM.AtomicCount TM.Gen.AtomicCounts

/-- **C06.clone_code_fact** — Registry::clone_span bumps the count with one fetch_add, no separate load / store
(re-extracted from sharded.rs on every run) -/
theorem clone_code_fact : cloneIsRmw = true := rfl

/-- **C06.no_reference_lost** — a span holding `c0` references, any threads each taking one more (enter, child creation,
clone) or giving one of the `c0` back, every interleaving of the count operations as the code performs them:
count = references outstanding -/
theorem no_reference_lost (c0 : Nat) (ths : List Nat) (hnd : ths.Nodup) (kind : Nat → Kind)
    (hroom : (decs kind ths).length ≤ c0) (sched : List Nat) (hs : ∀ t ∈ sched, t ∈ ths) :
    let s := run cloneIsRmw true kind (start c0) sched
    s.c + finished s (decs kind ths) = c0 + finished s (incs kind ths) := by
  rw [clone_code_fact]
  exact mixed_exact c0 ths hnd kind hroom sched hs

/-- **C06.lost_reference_witness** — it depends on the bump being one atomic operation: with a load followed by a store, two
threads entering the same span together are counted once -/
theorem lost_reference_witness :
    (run false true (fun _ => .inc) (start 1) [0, 1, 0, 1]).c = 2 := by decide

example : (run cloneIsRmw true (fun _ => .inc) (start 1) [0, 1, 1, 0]).c = 3 := by decide

/-- **C06.not_closed_under_a_holder** — threads as programs (clone / drop / give, through handles they hold — an entered guard,
a child's parent reference and a `Span` clone are such handles), every interleaving of the count operations as the code performs
them: as long as ANY thread holds a reference the span has not been reported closed — it stays the current span of the threads
inside it and readable from its children -/
theorem not_closed_under_a_holder (ths : List Nat) (hnd : ths.Nodup) (t0 : Nat) (h0 : t0 ∈ ths)
    (sched : List (Nat × TM.HandleRace.Act)) (hs : TM.HandleRace.Within ths sched) (t : Nat) (ht : t ∈ ths)
    (hheld : (TM.HandleRace.run cloneIsRmw closeDecidedByFetchSub (TM.HandleRace.start t0) sched).held t ≠ 0) :
    (TM.HandleRace.run cloneIsRmw closeDecidedByFetchSub (TM.HandleRace.start t0) sched).closes = 0 := by
  rw [show closeDecidedByFetchSub = true from rfl, clone_code_fact] at hheld ⊢
  obtain ⟨hle, hiff⟩ := TM.HandleRace.closed_iff_no_handles (TM.HandleRace.run_inv hnd (TM.HandleRace.Inv.init hnd h0) hs)
  have := mt hiff.mp fun hall => hheld (hall t ht)
  omega

end C06
