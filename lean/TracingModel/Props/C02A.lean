/-
C02, the live-scope counter under real interleavings — `get_default` goes straight to the global default exactly when
SCOPED_COUNT reads 0, so "an emission is handed to the innermost still-live scope of its thread" needs the counter to BE the
number of live scopes of the process whatever threads open and close scopes at the same time.

Model: Core/AtomicCount.lean (one step = one atomic operation on the counter; any number of threads, any schedule); whether
an open is ONE fetch_add and a close ONE fetch_sub is extracted from dispatch.rs on every run (Gen/AtomicCounts.lean).
Scopes and counter together, every thread a program of `set_default` / guard drop / `get_default` calls: Core/ScopeRace.lean.
-/
import TracingModel.Props.C02G
import TracingModel.Lemmas.AtomicCount
import TracingModel.Lemmas.ScopeRace

namespace C02
open TM.AtomicCount TM.Gen.AtomicCounts

/-- **C02.scope_counter_code_facts** — State::set_default bumps SCOPED_COUNT with one fetch_add and nothing else, Drop for
DefaultGuard lowers it with one fetch_sub (re-extracted from dispatch.rs on every run) -/
theorem scope_counter_code_facts : scopeOpenIsRmw = true ∧ scopeCloseIsRmw = true := ⟨rfl, rfl⟩

/-- **C02.scope_counter_exact** — `c0` scopes live at the start, any threads each opening one scope or closing one of those,
every interleaving of the counter operations as the code performs them: SCOPED_COUNT = scopes live now -/
theorem scope_counter_exact (c0 : Nat) (ths : List Nat) (hnd : ths.Nodup) (kind : Nat → Kind)
    (hroom : (decs kind ths).length ≤ c0) (sched : List Nat) (hs : ∀ t ∈ sched, t ∈ ths) :
    let s := run scopeOpenIsRmw true kind (start c0) sched
    s.c + finished s (decs kind ths) = c0 + finished s (incs kind ths) := by
  rw [scope_counter_code_facts.1]
  exact mixed_exact c0 ths hnd kind hroom sched hs

/-- **C02.fast_path_sound** — hence the fast path (counter reads 0) is taken only when no scope is live anywhere -/
theorem fast_path_sound (c0 : Nat) (ths : List Nat) (hnd : ths.Nodup) (kind : Nat → Kind)
    (hroom : (decs kind ths).length ≤ c0) (sched : List Nat) (hs : ∀ t ∈ sched, t ∈ ths) :
    let s := run scopeOpenIsRmw true kind (start c0) sched
    s.c = 0 ↔ c0 + finished s (incs kind ths) = finished s (decs kind ths) := by
  have := scope_counter_exact c0 ths hnd kind hroom sched hs
  omega

/-- **C02.scope_counter_witness** — it depends on the open being one atomic operation: with a load followed by a store two
threads opening a scope together leave the counter at 1, and after one of them closes it reads 0 with a scope still live -/
theorem scope_counter_witness :
    (run false true (fun _ => .inc) (start 0) [0, 1, 0, 1]).c = 1 ∧
    finished (run false true (fun _ => .inc) (start 0) [0, 1, 0, 1]) [0, 1] = 2 := ⟨lost_increment_witness, by decide⟩

example : (run scopeOpenIsRmw true (fun t => if t < 2 then .dec else .inc) (start 2) [3, 0, 2, 1, 4]).c = 3 := by decide

/-- **C02.scoped_default_interleaved** — any threads, any programs, every interleaving of their atomic steps as the code
performs them: whenever a thread that is between calls asks for the default, it gets the collector of its OWN innermost live
scope, else the global default — whatever scopes other threads are opening or closing at that moment -/
theorem scoped_default_interleaved (g : Option Nat) (ths : List Nat) (hnd : ths.Nodup)
    (sched : List (Nat × TM.ScopeRace.Act)) (hs : ∀ ta ∈ sched, ta.1 ∈ ths) (t : Nat) (ht : t ∈ ths)
    (hidle : (TM.ScopeRace.run scopeOpenIsRmw g TM.ScopeRace.start sched).pc t = .idle) :
    (TM.ScopeRace.step scopeOpenIsRmw g (TM.ScopeRace.run scopeOpenIsRmw g TM.ScopeRace.start sched) (t, .get)).last t
      = some (TM.ScopeRace.expected g (TM.ScopeRace.run scopeOpenIsRmw g TM.ScopeRace.start sched) t) := by
  rw [scope_counter_code_facts.1] at hidle ⊢
  exact TM.ScopeRace.get_expected g (TM.ScopeRace.run_inv g hnd (TM.ScopeRace.Inv.init ths) hs) ht hidle

/-- **C02.other_threads_untouched** — a step of another thread changes neither a thread's live scopes nor its thread-local
default ("never affect another thread") -/
theorem other_threads_untouched (rmw : Bool) (g : Option Nat) (s : TM.ScopeRace.S) (u : Nat) (a : TM.ScopeRace.Act) (t : Nat) (h : t ≠ u) :
    (TM.ScopeRace.step rmw g s (u, a)).guards t = s.guards t ∧ (TM.ScopeRace.step rmw g s (u, a)).tl t = s.tl t ∧
    (TM.ScopeRace.step rmw g s (u, a)).pc t = s.pc t :=
  TM.ScopeRace.step_other rmw g s u a t h

/-- **C02.scoped_default_witness** — it depends on the counter bump being one atomic operation: with load-then-store, two threads
open a scope together (one bump is lost), the first closes its scope, and the second — still inside its own — is handed the
global default (here: none) -/
theorem scoped_default_witness :
    let s := TM.ScopeRace.run false none TM.ScopeRace.start
      [(0, .open 10), (1, .open 11), (0, .step), (1, .step), (0, .step), (1, .step), (0, .close), (0, .step), (1, .get)]
    s.last 1 = some none ∧ TM.ScopeRace.expected none s 1 = some 11 := by decide

example : (TM.ScopeRace.run scopeOpenIsRmw (some 7) TM.ScopeRace.start
    [(0, .open 10), (1, .open 11), (0, .step), (1, .step), (0, .close), (0, .step), (1, .get), (0, .get)]).last 1 = some (some 11) := by decide

end C02
