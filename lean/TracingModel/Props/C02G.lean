/-
C02 / C04, the one-shot global default under real interleavings —
"set_global_default succeeds exactly once" (C02) for callers racing on several threads — proved as: at most one call returns
Ok (nothing here says that one does) — and
"an emission that starts after a collector's installation has completed is judged by that collector" (C04).

Model: Core/GlobalInit.lean (one step = one atomic operation of `set_global_default`; any number of
threads, any schedule), parametrised by the election / publication facts extracted from dispatch.rs.
-/
import TracingModel.Props.C02
import TracingModel.Core.GlobalInit

namespace C02
open TM.GlobalInit

def good : Facts := { cas := true, publishAfterWrite := true }

/-- **C02.global_code_facts** — what dispatch.rs says now (regenerated on every run): the election is one
compare-exchange, INITIALIZED is published after the write, a loser gets an error, readers require INITIALIZED -/
theorem global_code_facts :
    codeFacts = good ∧ TM.Gen.GlobalInit.loserGetsError = true ∧ TM.Gen.GlobalInit.readersRequireInitialized = true :=
  ⟨rfl, rfl, rfl⟩

/-- the thread has won the election (its compare-exchange succeeded): `won`, `half`, `done true` -/
def isW : PC → Bool
  | .won => true
  | .half => true
  | .done true => true
  | _ => false

theorem isW_iff {p : PC} : isW p = true ↔ p = .won ∨ p = .half ∨ p = .done true := by
  cases p with
  | done ok => cases ok <;> simp [isW]
  | _ => simp [isW]

structure Inv (coll : Nat → Nat) (s : S) : Prop where
  unique : ∀ t1 t2, isW (s.pc t1) = true → isW (s.pc t2) = true → t1 = t2
  uninit : s.init = 0 → (∀ t, isW (s.pc t) = false) ∧ s.disp = none
  noLoaded : ∀ t, s.pc t ≠ .loaded
  won : ∀ t, s.pc t = .won → s.init = 1 ∧ s.disp = none
  half : ∀ t, s.pc t = .half → s.init = 1 ∧ s.disp = some (coll t)
  doneOk : ∀ t, s.pc t = .done true → s.init = 2 ∧ s.disp = some (coll t)
  nonzero : s.init ≠ 0 → ∃ t, isW (s.pc t) = true

theorem Inv.init (coll : Nat → Nat) : Inv coll S.start where
  unique _ _ h := nomatch h
  uninit _ := ⟨fun _ => rfl, rfl⟩
  noLoaded _ h := nomatch h
  won _ h := nomatch h
  half _ h := nomatch h
  doneOk _ h := nomatch h
  nonzero h := absurd rfl h

theorem Inv.published {coll : Nat → Nat} {s : S} (h : Inv coll s) (h2 : s.init = 2) :
    ∃ t, s.pc t = .done true ∧ s.disp = some (coll t) := by
  obtain ⟨t, ht⟩ := h.nonzero (by omega)
  rcases isW_iff.mp ht with hp | hp | hp
  · have := (h.won t hp).1; omega
  · have := (h.half t hp).1; omega
  · exact ⟨t, hp, (h.doneOk t hp).2⟩

@[simp] theorem upd_same (f : Nat → PC) (t : Nat) (v : PC) : upd f t v t = v := if_pos rfl
theorem upd_other {f : Nat → PC} {t x : Nat} {v : PC} (h : x ≠ t) : upd f t v x = f x := if_neg h

/-- a thread whose pc changes between two non-winning values changes nothing the invariant looks at -/
theorem inv_of_nonwinner {coll : Nat → Nat} {s : S} (h : Inv coll s) (t : Nat) (v : PC)
    (hold : isW (s.pc t) = false) (hv : isW v = false) (hvl : v ≠ .loaded) :
    Inv coll { s with pc := upd s.pc t v } := by
  -- whatever the invariant says of a pc that is elected or `loaded`, it says of another thread's, unchanged
  have old : ∀ x p, upd s.pc t v x = p → isW p = true ∨ p = .loaded → s.pc x = p := by
    intro x p hx hp
    by_cases e : x = t
    · subst e
      rw [upd_same] at hx
      subst hx
      rcases hp with hp | hp
      · rw [hv] at hp; cases hp
      · exact absurd hp hvl
    · rwa [upd_other e] at hx
  constructor
  case unique =>
    intro t1 t2 h1 h2
    exact h.unique t1 t2 (old t1 _ rfl (Or.inl h1) ▸ h1) (old t2 _ rfl (Or.inl h2) ▸ h2)
  case uninit =>
    intro h0
    refine ⟨fun x => ?_, (h.uninit h0).2⟩
    cases hw : isW (upd s.pc t v x) with
    | false => rfl
    | true => rw [← old x _ rfl (Or.inl hw), (h.uninit h0).1 x] at hw; cases hw
  case noLoaded => exact fun x hx => h.noLoaded x (old x _ hx (Or.inr rfl))
  case won => exact fun x hx => h.won x (old x _ hx (Or.inl rfl))
  case half => exact fun x hx => h.half x (old x _ hx (Or.inl rfl))
  case doneOk => exact fun x hx => h.doneOk x (old x _ hx (Or.inl rfl))
  case nonzero =>
    intro hn
    obtain ⟨x, hx⟩ := h.nonzero hn
    have e : x ≠ t := by intro e; subst e; rw [hold] at hx; cases hx
    exact ⟨x, by simp only [upd_other e]; exact hx⟩

/-- the elected thread `t` takes its next step; `hv` lists the three such steps, each as the pc reached with the `init` and
`disp` cells as that step leaves them -/
theorem inv_of_winner {coll : Nat → Nat} {s : S} (h : Inv coll s) (t : Nat) (hoth : ∀ x, x ≠ t → isW (s.pc x) = false)
    (v : PC) (i : Nat) (d : Option Nat)
    (hv : v = .won ∧ i = 1 ∧ d = none ∨ v = .half ∧ i = 1 ∧ d = some (coll t) ∨ v = .done true ∧ i = 2 ∧ d = some (coll t)) :
    Inv coll { init := i, disp := d, pc := upd s.pc t v } := by
  have hW : isW v = true := by rcases hv with h | h | h <;> rw [h.1] <;> rfl
  have at_t : ∀ x p, upd s.pc t v x = p → isW p = true → x = t ∧ v = p := by
    intro x p hx hp
    by_cases e : x = t
    · subst e; rw [upd_same] at hx; exact ⟨rfl, hx⟩
    · rw [upd_other e] at hx; rw [← hx, hoth x e] at hp; cases hp
  constructor
  case unique => exact fun t1 t2 h1 h2 => (at_t t1 _ rfl h1).1.trans (at_t t2 _ rfl h2).1.symm
  case nonzero => exact fun _ => ⟨t, by simp only [upd_same]; exact hW⟩
  case uninit => intro (h0 : i = 0); omega
  case noLoaded =>
    intro x hx
    by_cases e : x = t
    · subst e; simp only [upd_same] at hx; rw [hx] at hW; cases hW
    · simp only [upd_other e] at hx; exact h.noLoaded x hx
  -- `won`, `half`, `doneOk`: such a pc is `t`'s, so it is `v`, and `hv` says what the cells are
  all_goals intro x hx; obtain ⟨rfl, rfl⟩ := at_t x _ hx rfl; simpa using hv

theorem step_inv {coll : Nat → Nat} {s : S} (h : Inv coll s) (t : Nat) : Inv coll (step good coll s t) := by
  have others : isW (s.pc t) = true → ∀ x, x ≠ t → isW (s.pc x) = false :=
    fun tw x e => Bool.eq_false_iff.mpr fun hw => e (h.unique x t hw tw)
  simp only [TM.GlobalInit.step, good, if_true]
  cases hp : s.pc t with
  | idle =>
    by_cases h0 : s.init = 0
    · simp only [h0, if_true]
      exact inv_of_winner h t (fun x _ => (h.uninit h0).1 x) .won 1 _ (Or.inl ⟨rfl, rfl, (h.uninit h0).2⟩)
    · simp only [h0, if_false]
      exact inv_of_nonwinner h t (.done false) (by rw [hp]; rfl) rfl (by simp)
  | loaded => exact absurd hp (h.noLoaded t)
  | won =>
    exact inv_of_winner h t (others (by rw [hp]; rfl)) .half _ _ (Or.inr (Or.inl ⟨rfl, (h.won t hp).1, rfl⟩))
  | half =>
    exact inv_of_winner h t (others (by rw [hp]; rfl)) (.done true) 2 _ (Or.inr (Or.inr ⟨rfl, rfl, (h.half t hp).2⟩))
  | done ok => exact h

theorem run_inv {coll : Nat → Nat} {s : S} (h : Inv coll s) (sched : List Nat) : Inv coll (run good coll s sched) :=
  List.foldlRecOn sched _ h fun _ hs t _ => step_inv hs t

theorem step_pc_other (F : Facts) (coll : Nat → Nat) (s : S) {u t : Nat} (h : t ≠ u) : (step F coll s u).pc t = s.pc t := by
  unfold step
  split <;> (try split) <;> (try split) <;> simp only [upd_other h]

theorem done_stays (F : Facts) (coll : Nat → Nat) (sched : List Nat) (s : S) (t : Nat) (ok : Bool) (h : s.pc t = .done ok) :
    (run F coll s sched).pc t = .done ok := by
  refine List.foldlRecOn (motive := fun s => s.pc t = .done ok) sched (step F coll) h fun s h u _ => ?_
  by_cases e : u = t
  · subst e; unfold step; simp only [h]
  · rw [step_pc_other F coll s (Ne.symm e)]; exact h

/-- **C02.global_once_interleaved** — however many threads call `set_global_default`, under EVERY
interleaving of their atomic steps, at most one call returns Ok -/
theorem global_once_interleaved (coll : Nat → Nat) (sched : List Nat) (t1 t2 : Nat)
    (h1 : (run good coll S.start sched).pc t1 = .done true) (h2 : (run good coll S.start sched).pc t2 = .done true) : t1 = t2 := by
  have inv := run_inv (Inv.init coll) sched
  exact inv.unique t1 t2 (by rw [h1]; rfl) (by rw [h2]; rfl)

/-- **C02.installed_is_default** — once a call has returned Ok, `get_global` yields THAT caller's collector, and keeps doing
so after any further steps of any threads: an emission that starts after the installation has completed goes to it -/
theorem installed_is_default (coll : Nat → Nat) (sched more : List Nat) (t : Nat)
    (h : (run good coll S.start sched).pc t = .done true) :
    getGlobal (run good coll (run good coll S.start sched) more) = some (coll t) := by
  have inv := run_inv (run_inv (Inv.init coll) sched) more
  have hd := done_stays good coll more _ t true h
  obtain ⟨i2, d⟩ := inv.doneOk t hd
  simp [getGlobal, i2, d]

/-- **C02.reader_never_sees_half_installed** — `get_global` yields the no-op collector or the collector of a call that
HAS returned Ok; never a collector whose installation is still in progress -/
theorem reader_never_sees_half_installed (coll : Nat → Nat) (sched : List Nat) (c : Nat)
    (h : getGlobal (run good coll S.start sched) = some c) :
    ∃ t, (run good coll S.start sched).pc t = .done true ∧ coll t = c := by
  unfold getGlobal at h
  split at h
  · next h2 =>
    obtain ⟨t, hp, hd⟩ := (run_inv (Inv.init coll) sched).published h2
    exact ⟨t, hp, Option.some.inj (hd ▸ h)⟩
  · cases h

/-- **C02.election_witness** — the statement depends on the election being ONE atomic operation: with a load followed by
a store, two threads both return Ok and the first one's collector is not the global default -/
theorem election_witness :
    let F : Facts := { cas := false, publishAfterWrite := true }
    let s := run F (fun t => 10 + t) S.start [0, 1, 0, 1, 0, 0, 1, 1]
    s.pc 0 = .done true ∧ s.pc 1 = .done true ∧ getGlobal s = some 11 := by decide

end C02
