/-
C02 — "An emission goes to the thread's scoped default, else to the global default"

  On every thread an emission is handed to the collector installed by the innermost still-live
  set_default/with_default scope of that thread; if the thread has no live scope, to the
  process-wide default when one has been set (by any thread, at any earlier time), and otherwise
  it is discarded. Scopes nest and unwind in LIFO order, are restored on panic, never affect
  another thread, and set_global_default succeeds exactly once.

Model: Core/Dispatch.lean (dispatch.rs after the "fix:" commit for F1: the thread-local keeps
`None` for "no scoped default" and reads fall back to the global default as it is now).
Specification: per-thread stacks of live scopes + "global set so far" (Spec/CoreSpec.lean).
-/
import TracingModel.Lemmas.CallsiteRefine

namespace C02
open TM.Dispatch TM.Callsite TM.Spec.CoreSpec TM.CoreLemmas

/-- the dispatch relation holds in every state reachable by any finite history (no hypothesis
on the filters: this part does not depend on the caches) -/
theorem rel_reachable (st : Nat) (lvl : Cs → Nat) (ops : List Op) (s : CState) (sp : SState) (hr : DRel s sp) :
    DRel (TM.Callsite.run st lvl s ops).1 (TM.Spec.CoreSpec.run st lvl sp ops).1 :=
  run_drel hr st lvl ops

/-- **C02.current_is_innermost** — after EVERY finite history of scope opens/closes (properly
nested per thread; unwinding = closes), global-default attempts, thread starts and anything
else, on every thread: what `get_default` resolves to (fast path or slow path, whatever the
scope counter says) is the top of that thread's stack of live scopes, else the global default
if its installation has completed, else nothing. -/
theorem current_is_innermost (st : Nat) (lvl : Cs → Nat) (ops : List Op) (t : Tid) :
    current (TM.Callsite.run st lvl CState.init ops).1.d t
      = currentCollector (TM.Spec.CoreSpec.run st lvl SState.init ops).1 t :=
  (rel_reachable st lvl ops _ _ DRel.init).current_eq t

/-- **C02.lifo_restore** — closing a scope (normally or by unwinding: `Drop for DefaultGuard`)
restores exactly what was current before it was opened, on every thread -/
theorem lifo_restore (st : Nat) (lvl : Cs → Nat) (s : CState) (sp : SState) (hr : DRel s sp) (t : Tid) (c : Cid)
    (hv : t < s.nthreads ∧ s.handle c = true) (t' : Tid) :
    current (TM.Callsite.run st lvl s [.setDefault t c, .popDefault t]).1.d t' = current s.d t' := by
  have h2 := rel_reachable st lvl [.setDefault t c, .popDefault t] s sp hr
  rw [h2.current_eq t', hr.current_eq t']
  have hc : t < sp.nthreads ∧ sp.handle c = true := by rw [← hr.nthreads, ← hr.handle]; exact hv
  simp only [TM.Spec.CoreSpec.run, TM.Spec.CoreSpec.step, currentCollector, hc, and_self, if_true]
  by_cases e : t' = t
  · subst e; simp
  · simp [update_other e]

/-- **C02.frame** — opening or closing a scope on thread `t` never changes what another thread
resolves to -/
theorem frame (st : Nat) (lvl : Cs → Nat) (s : CState) (sp : SState) (hr : DRel s sp) (t t' : Tid) (c : Cid)
    (hne : t' ≠ t) :
    current (TM.Callsite.step st lvl s (.setDefault t c)).1.d t' = current s.d t' ∧
    current (TM.Callsite.step st lvl s (.popDefault t)).1.d t' = current s.d t' := by
  have h1 := step_drel hr st lvl (.setDefault t c)
  have h2 := step_drel hr st lvl (.popDefault t)
  rw [h1.current_eq t', h2.current_eq t', hr.current_eq t']
  simp only [TM.Spec.CoreSpec.step, currentCollector]
  constructor
  · by_cases hc : t < sp.nthreads ∧ sp.handle c = true
    · simp only [hc, and_self, if_true, update_other hne]
    · simp only [hc, if_false]
  · by_cases hc : t < sp.nthreads
    · simp only [hc, if_true, update_other hne]
    · simp only [hc, if_false]

/-- number of `set_global_default` calls that returned `Ok` in an output list -/
def okCount : List Out → Nat
  | [] => 0
  | .setGlobal true :: r => okCount r + 1
  | _ :: r => okCount r

/-- 1 as long as no global default is set: every `Ok` uses it up and nothing gives it back (`okCount_spec`) -/
private def free (sp : SState) : Nat := if sp.glob = none then 1 else 0

private theorem okCount_cons (o : Out) (r : List Out) : okCount (o :: r) = okCount r + okCount [o] := by
  cases o with
  | setGlobal ok => cases ok <;> rfl
  | _ => rfl

private theorem step_glob (st : Nat) (lvl : Cs → Nat) (sp : SState) (op : Op) :
    free (TM.Spec.CoreSpec.step st lvl sp op).1 + okCount [(TM.Spec.CoreSpec.step st lvl sp op).2] = free sp := by
  cases op with
  | setGlobal c =>
    simp only [TM.Spec.CoreSpec.step]
    split
    · cases hg : sp.glob with
      | none => simp [free, okCount, hg]
      | some g => simp [free, okCount, hg]
    · rfl
  | _ =>
    simp only [TM.Spec.CoreSpec.step]
    (try split) <;> rfl

private theorem okCount_spec (st : Nat) (lvl : Cs → Nat) (ops : List Op) (sp : SState) :
    free (TM.Spec.CoreSpec.run st lvl sp ops).1 + okCount (TM.Spec.CoreSpec.run st lvl sp ops).2 = free sp := by
  induction ops generalizing sp with
  | nil => rfl
  | cons op ops ih =>
    have h1 := step_glob st lvl sp op
    have h2 := ih (TM.Spec.CoreSpec.step st lvl sp op).1
    simp only [TM.Spec.CoreSpec.run]
    rw [okCount_cons]
    omega

/-- **C02.global_once (sequential)** — in every history at most one `set_global_default` returns
`Ok`, it is the first one made with a collector the program holds, and every later call fails
(the interleaving of the call's three atomic steps is `TM.GlobalInit`, theorem
`global_once_interleaved`) -/
theorem global_once (st : Nat) (lvl : Cs → Nat) (ops : List Op) (hsc : ∀ op ∈ ops, OpSC lvl op) :
    okCount (TM.Callsite.run st lvl CState.init ops).2 ≤ 1 := by
  rw [TM.Refine.refines_spec st lvl ops hsc _ _ (Inv.init lvl) DRel.init]
  have h : _ = 1 := okCount_spec st lvl ops SState.init
  omega

/-- non-vacuity and the F1 regression: a thread that opened and closed a scope BEFORE the global
default existed still resolves to the global default later, while another thread holds a scope -/
example :
    let all : Filt := { stat := fun _ => .always, dyn := fun _ => true, hint := none }
    (TM.Callsite.run 5 (fun cs => cs / 6 + 1) CState.init
      [.newCollector 1 all, .newCollector 2 all, .newCollector 3 all, .threadStart,
       .setDefault 0 1, .emit 0 0, .popDefault 0,      -- thread 0 used a scope before any global default
       .setGlobal 2, .setDefault 1 3,                  -- global installed; thread 1 holds a scope
       .emit 0 0, .emit 1 0, .setGlobal 3]).2
    = [.none, .none, .none, .none, .none, .delivered 0 0 (some 1), .none, .setGlobal true, .none,
       .delivered 0 0 (some 2), .delivered 1 0 (some 3), .setGlobal false] := by decide

end C02
