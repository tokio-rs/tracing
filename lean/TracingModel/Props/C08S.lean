/-
C08, whole stacks — "The same holds for the summary of a whole stack relative to what any of its
layers would receive."

The two stack-level summaries are the interest `Collect::register_callsite` of the built stack
returns (cached per callsite by the macros) and `Collect::max_level_hint` (published as the
process-wide MAX_LEVEL the macros compare against first).  Their models are C07's `stackInterest`
(pick_interest + the FilterState interest accumulation) and Core/Reload's `stackHint`
(pick_level_hint); the soundness proofs live with those models (Props/C07, Lemmas/StackHint) and are
restated here as the C08 obligations, next to the per-filter ones of Props/C08.
-/
import TracingModel.Props.C07
import TracingModel.Lemmas.StackHint

namespace C08
open TM.Reload TM.Filtering TM.FilterExpr TM.Directive TM.FilteringLemmas

/-- **C08.stack_interest_sound** — for every stack of plain / global-filter / per-layer-filtered
layers (filter expressions of any depth, honest closures) and every metadata: if the stack's cached
interest is `never`, no layer would receive the emission in any context; if it is `always`, every
global filter and every per-layer filter accepts it in every context (so skipping the `enabled`
pass loses nothing and delivers nothing unwanted). -/
theorem stack_interest_sound (st : Stack) (hne : st ≠ []) (hh : HonestStack st) (m : Meta) :
    (stackInterest st m = .never → ∀ c, shouldReceive st m c = []) ∧
    (stackInterest st m = .always → ∀ c, globalsOk st m c = true ∧
        ∀ fid f n, Node.filt fid f n ∈ st → enabledF f m c = true) :=
  C07.interest_sound st hne hh m

/-- **C08.stack_hint_sound** — whatever any layer of the stack would receive, in any context, has
a level within the maximum level the stack advertises. -/
theorem stack_hint_sound (st : Stack) (hh : HonestStack st) (hb : C12.BuiltStack st) (m : Meta) (c : Ctx)
    (i : Nat) (hi : stackHint st = some i) (hr : shouldReceive st m c ≠ []) : m.level ≤ i :=
  C12.stack_hint_sound st hh hb m c i hi hr

end C08
