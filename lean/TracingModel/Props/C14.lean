/-
C14 — "JSON output is always one valid JSON object per line and faithful to the data"

  With the JSON formatter every record is a single line that parses as one JSON object with unique
  keys, whatever characters appear in messages, field names, string values, targets or span names;
  each event field and each span field (including fields recorded after the span was created, in
  any number of steps) appears with a value equal to what was recorded under the documented type
  mapping, and the span list names the spans in scope from root to leaf.

Model: Core/Json.lean (hand-written from json.rs / tracing-serde; compared BYTE FOR BYTE with the
real formatter's output on every run).
-/
import TracingModel.Core.Json

namespace C14
open TM.Json

def hexVal (c : Nat) : Option Nat :=
  if 48 ≤ c ∧ c ≤ 57 then some (c - 48) else if 97 ≤ c ∧ c ≤ 102 then some (c - 87)
  else if 65 ≤ c ∧ c ≤ 70 then some (c - 55) else none

def hex4 (a b c d : Nat) : Option Nat :=
  match hexVal a, hexVal b, hexVal c, hexVal d with
  | some a, some b, some c, some d => some (((a * 16 + b) * 16 + c) * 16 + d)
  | _, _, _, _ => none

def simple (x : Nat) : Option Nat :=
  if x = 34 then some 34 else if x = 92 then some 92 else if x = 47 then some 47 else if x = 98 then some 8
  else if x = 102 then some 12 else if x = 110 then some 10 else if x = 114 then some 13 else if x = 116 then some 9 else none

/-- an independent reader of ONE (possibly escaped) character of a JSON string body (RFC 8259 §7) -/
def unesc1 : Str → Option (Nat × Str)
  | [] => none
  | c :: rest =>
    if c = 92 then
      (match rest with
       | x :: r =>
         if x = 117 then
           (match r with
            | a :: b :: y :: d :: r' => (hex4 a b y d).map (fun v => (v, r'))
            | _ => none)
         else (simple x).map (fun v => (v, r))
       | [] => none)
    else if c = 34 ∨ c < 32 then none      -- a raw quote or control character is not allowed inside a string
    else some (c, rest)

def unescapeN : Nat → Str → Option Str
  | _, [] => some []
  | 0, _ :: _ => none
  | n + 1, s =>
    match unesc1 s with
    | some (c, r) => (unescapeN n r).map (c :: ·)
    | none => none

theorem unesc1_append {s r : Str} {c : Nat} (t : Str) (h : unesc1 s = some (c, r)) :
    unesc1 (s ++ t) = some (c, r ++ t) := by
  -- each branch in which the reader succeeds has matched a prefix of `s` of fixed shape
  unfold unesc1 at h
  repeat' split at h
  all_goals simp_all [unesc1]

theorem esc1_verbatim {c : Nat} (h : 93 ≤ c) : esc1 c = [c] := by
  unfold esc1
  rw [if_neg (by omega), if_neg (by omega), if_neg (by omega), if_neg (by omega), if_neg (by omega),
    if_neg (by omega), if_neg (by omega), if_neg (by omega)]

theorem hexDigit_ge (n : Nat) : 48 ≤ hexDigit n := by unfold hexDigit; split <;> omega

theorem esc1_spec (c : Nat) : unesc1 (esc1 c) = some (c, []) ∧ ∀ x ∈ esc1 c, 32 ≤ x := by
  by_cases h : c < 93
  · -- the escape table ends at `\` = 92: it is finite, and evaluated
    revert c; decide
  · rw [esc1_verbatim (by omega)]
    refine ⟨?_, fun x hx => ?_⟩
    · show (if c = 92 then _ else if c = 34 ∨ c < 32 then none else some (c, [])) = _
      rw [if_neg (by omega), if_neg (by omega)]
    · cases List.mem_singleton.mp hx; omega

theorem esc1_unesc1 (c : Nat) (rest : Str) : unesc1 (esc1 c ++ rest) = some (c, rest) :=
  unesc1_append rest (esc1_spec c).1

theorem esc1_ne_nil (c : Nat) : esc1 c ≠ [] := by
  intro e; have := (esc1_spec c).1; rw [e] at this; cases this

theorem length_le_escape (s : Str) : s.length ≤ (escape s).length := by
  induction s with
  | nil => exact Nat.le_refl _
  | cons c cs ih =>
    have := List.length_pos_iff.mpr (esc1_ne_nil c)
    simp only [escape, List.flatMap_cons, List.length_append, List.length_cons] at ih ⊢
    omega

theorem unescapeN_step (n : Nat) {s r : Str} {c : Nat} (h : unesc1 s = some (c, r)) :
    unescapeN (n + 1) s = (unescapeN n r).map (c :: ·) := by
  cases s with
  | nil => cases h
  | cons a s => simp only [unescapeN, h]

theorem unescapeN_escape (s : Str) : ∀ n, s.length ≤ n → unescapeN n (escape s) = some s := by
  induction s with
  | nil => intro n _; cases n <;> rfl
  | cons c cs ih =>
    intro n hn
    cases n with
    | zero => cases hn
    | succ n =>
      show unescapeN (n + 1) (esc1 c ++ escape cs) = _
      rw [unescapeN_step n (esc1_unesc1 c _), ih n (Nat.le_of_succ_le_succ hn)]
      rfl

/-- **C14.escape_roundtrip** — for EVERY string (any code points: quotes, backslashes, every C0
control, DEL, U+2028/9, astral) an independent reader of JSON string bodies recovers exactly the
string from its escaped form -/
theorem escape_roundtrip (s : Str) : unescapeN (escape s).length (escape s) = some s :=
  unescapeN_escape s _ (length_le_escape s)

/-- **C14.single_line** — an escaped string contains no raw control character (in particular no
LF / CR): string values, keys, targets and span names can never break the one-record-one-line rule -/
theorem single_line (s : Str) : ∀ c ∈ escape s, 32 ≤ c := by
  intro c hc
  obtain ⟨x, _, hx⟩ := List.mem_flatMap.mp hc
  exact (esc1_spec x).2 c hx

theorem strLt_iff (a b : Str) : strLt a b = true ↔ a < b := by
  induction a generalizing b with
  | nil => cases b <;> simp [strLt]
  | cons x xs ih =>
    cases b with
    | nil => simp [strLt]
    | cons y ys =>
      simp only [strLt, List.cons_lt_cons_iff, ← ih]
      split
      · simp [*]
      · split
        · exact ⟨fun h => (nomatch h), fun h => by omega⟩
        · have : x = y := by omega
          simp [*]

theorem strLt_irrefl (a : Str) : strLt a a = false :=
  Bool.eq_false_iff.mpr fun h => List.lt_irrefl a ((strLt_iff a a).mp h)

theorem strLt_trans {a b c : Str} (h1 : strLt a b = true) (h2 : strLt b c = true) : strLt a c = true :=
  (strLt_iff a c).mpr (List.lt_trans ((strLt_iff a b).mp h1) ((strLt_iff b c).mp h2))

theorem strLt_total {a b : Str} (h : ¬ strLt a b = true) (hne : a ≠ b) : strLt b a = true := by
  have hle : b ≤ a := fun hab => h ((strLt_iff a b).mpr hab)
  exact (strLt_iff b a).mpr ((List.le_iff_lt_or_eq.mp hle).resolve_right (Ne.symm hne))

def Sorted (m : List (Str × J)) : Prop := m.Pairwise (fun a b => strLt a.1 b.1 = true)

theorem mem_insertSorted {k : Str} {v : J} {m : List (Str × J)} {q : Str × J}
    (h : q ∈ insertSorted k v m) : q = (k, v) ∨ q ∈ m := by
  fun_induction insertSorted k v m with
  | case1 => exact Or.inl (List.mem_singleton.mp h)
  | case2 => exact (List.mem_cons.mp h).imp_right (List.mem_cons_of_mem _)
  | case3 => exact List.mem_cons.mp h
  | case4 _ _ _ _ _ ih =>
    rcases List.mem_cons.mp h with rfl | h
    · exact Or.inr List.mem_cons_self
    · exact (ih h).imp_right (List.mem_cons_of_mem _)

theorem insert_sorted (k : Str) (v : J) (m : List (Str × J)) (h : Sorted m) : Sorted (insertSorted k v m) := by
  fun_induction insertSorted k v m with
  | case1 => exact List.pairwise_singleton _ _
  | case2 => exact List.pairwise_cons.mpr (List.pairwise_cons.mp h)    -- the head keeps its key, and `Sorted` reads keys only
  | case3 k' v' rest _ hlt =>
    obtain ⟨hx, _⟩ := List.pairwise_cons.mp h
    exact List.pairwise_cons.mpr ⟨List.forall_mem_cons.mpr ⟨hlt, fun b hb => strLt_trans hlt (hx b hb)⟩, h⟩
  | case4 k' v' rest hne hnlt ih =>
    obtain ⟨hx, hrest⟩ := List.pairwise_cons.mp h
    refine List.pairwise_cons.mpr ⟨fun b hb => ?_, ih hrest⟩
    rcases mem_insertSorted hb with rfl | hb
    · exact strLt_total hnlt hne
    · exact hx b hb

def lookupKey (k : Str) : List (Str × J) → Option J
  | [] => none
  | (k', v) :: rest => if k = k' then some v else lookupKey k rest

theorem lookup_insertSorted (k k' : Str) (v : J) (m : List (Str × J)) :
    lookupKey k (insertSorted k' v m) = if k = k' then some v else lookupKey k m := by
  fun_induction insertSorted k' v m with
  | case1 => rfl
  | case2 =>
    simp only [lookupKey]
    split <;> rfl
  | case3 => rfl
  | case4 k'' v' rest hne _ ih =>
    simp only [lookupKey, ih]
    split
    · next e => rw [if_neg (e ▸ Ne.symm hne)]
    · rfl

theorem lookupKey_append (k : Str) (l1 l2 : List (Str × J)) :
    lookupKey k (l1 ++ l2) = (lookupKey k l1).orElse fun _ => lookupKey k l2 := by
  induction l1 with
  | nil => rfl
  | cons y ys ih => simp only [List.cons_append, lookupKey]; split <;> simp [ih]

/-- the (key, value) pairs one `format_fields` / `add_fields` call visits -/
def pairs (fs : List (Str × Val)) : List (Str × J) :=
  fs.filterMap fun (k, v) => v.toJ.map fun j => (stripRaw k v, j)

theorem recordInto_eq (m : List (Str × J)) (fs : List (Str × Val)) :
    recordInto m fs = (pairs fs).foldl (fun m p => insertSorted p.1 p.2 m) m := by
  rw [pairs, List.foldl_filterMap]
  refine congrArg (fun f => List.foldl f m fs) (funext fun m => funext fun ⟨k, v⟩ => ?_)
  dsimp only
  cases v.toJ <;> rfl

theorem mem_recordInto {m : List (Str × J)} {fs : List (Str × Val)} {q : Str × J} (h : q ∈ recordInto m fs) :
    q ∈ m ∨ q ∈ pairs fs := by
  rw [recordInto_eq] at h
  revert h
  refine List.foldlRecOn (motive := fun acc => q ∈ acc → q ∈ m ∨ q ∈ pairs fs) (pairs fs) _ Or.inl fun _ ih p hp hq => ?_
  rcases mem_insertSorted hq with rfl | hq
  · exact Or.inr hp
  · exact ih hq

theorem foldl_recordInto (calls : List (List (Str × Val))) (m : List (Str × J)) :
    calls.foldl recordInto m = (calls.flatMap pairs).foldl (fun m p => insertSorted p.1 p.2 m) m := by
  induction calls generalizing m with
  | nil => rfl
  | cons c cs ih => rw [List.foldl_cons, ih, recordInto_eq, List.flatMap_cons, List.foldl_append]

/-- the last value visited for `k`, if any -/
def lastFor (k : Str) (ps : List (Str × J)) : Option J := lookupKey k ps.reverse

theorem foldl_lookup (k : Str) (ps : List (Str × J)) (m : List (Str × J)) :
    lookupKey k (ps.foldl (fun m p => insertSorted p.1 p.2 m) m) = ((lastFor k ps).orElse fun _ => lookupKey k m) := by
  induction ps generalizing m with
  | nil => rfl
  | cons p rest ih =>
    rw [List.foldl_cons, ih, lookup_insertSorted, lastFor, lastFor, List.reverse_cons, lookupKey_append]
    cases lookupKey k rest.reverse with
    | some j => rfl
    | none => simp only [lookupKey, Option.orElse_none]; split <;> rfl

/-- **C14.merge_last_wins** — after a span's creation and ANY number of later `record` calls, each of
any number of fields: the stored object is sorted by key, has unique keys, and every key maps to the
value recorded for it LAST (earlier fields are kept unless overwritten — in particular fields whose
names need JSON escaping, F18) -/
theorem merge_last_wins (calls : List (List (Str × Val))) :
    let stored := calls.foldl recordInto []
    Sorted stored ∧ (stored.map (·.1)).Nodup ∧
    ∀ k, lookupKey k stored = lastFor k (calls.flatMap pairs) := by
  rw [foldl_recordInto]
  have hs : Sorted ((calls.flatMap pairs).foldl (fun m p => insertSorted p.1 p.2 m) []) :=
    List.foldlRecOn _ _ List.Pairwise.nil fun m hm p _ => insert_sorted p.1 p.2 m hm
  refine ⟨hs, ?_, fun k => ?_⟩
  · -- strictly sorted keys are distinct
    refine List.pairwise_map.mpr (hs.imp fun h e => ?_)
    rw [e, strLt_irrefl] at h
    cases h
  · rw [foldl_lookup]
    cases lastFor k (calls.flatMap pairs) <;> rfl

/-- **C14.spans_root_to_leaf** — the `spans` array lists the spans in scope in the order given, each as its stored fields
followed by its name; `eventObj` takes them root first, as json.rs walks `scope().from_root()` (`TM.Registry.scope` yields the
same chain leaf first: `C06.scope_is_ancestor_chain`) -/
theorem spans_root_to_leaf (c : Cfg) (lvl : Nat) (tgt : Str) (fs : List (Str × Val)) (scope : List SpanData)
    (hs : scope ≠ []) (hl : c.spanList = true) :
    (ofAscii "spans", J.arr (scope.map spanObj)) ∈
      (match eventObj c lvl tgt fs scope with | .obj l => l | _ => []) := by
  unfold eventObj
  cases hg : scope.getLast? with
  | none => exact absurd (List.getLast?_eq_none_iff.mp hg) hs
  | some leaf => simp [hl]

/-- non-vacuity: a concrete hostile record -/
example :
    let fields : List (Str × Val) := [([119, 101, 34, 105, 114, 100], .i 1), ([97], .s [10, 8232, 128512, 92])]
    let stored := recordInto (recordInto [] fields) [([97], .d [110, 111, 119])]
    (lookupKey [97] stored).map render = some (render (.str [110, 111, 119])) ∧
    (lookupKey [119, 101, 34, 105, 114, 100] stored).map render = some [49] ∧
    render (.obj stored) = ofAscii "{\"a\":\"now\",\"we\\\"ird\":1}" := by
  decide

end C14
