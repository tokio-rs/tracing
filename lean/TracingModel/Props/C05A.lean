/-
C05, the last release under real interleavings — "reported closed exactly once … never twice" when the last references of a
span are released on several threads at the same time.

Model: Core/AtomicCount.lean (one step = one atomic operation on the span's reference count; any number of threads, any
schedule) and, for handles that are cloned and passed between threads, Core/HandleRace.lean; whether `try_close` decides
on the value returned by its own fetch_sub is extracted from sharded.rs on every run.
-/
import TracingModel.Props.C05R
import TracingModel.Props.C05N
import TracingModel.Lemmas.AtomicCount
import TracingModel.Lemmas.HandleRace

namespace C05
open TM.AtomicCount TM.Gen.AtomicCounts

/-- **C05.close_decision_code_fact** — Registry::try_close: `let refs = ref_count.fetch_sub(1); if refs > 1 { return false }`,
no other load or store of the count (re-extracted from sharded.rs on every run) -/
theorem close_decision_code_fact : closeDecidedByFetchSub = true := rfl

/-- **C05.one_closer_interleaved** — the `n ≥ 1` references of a span released by `n` threads, every interleaving of the
count operations as the code performs them: never two threads conclude "I released the last one" (so the span is never
reported closed twice), once the count is 0 exactly one has (it is reported), and the count is what has not been released -/
theorem one_closer_interleaved (ths : List Nat) (hnd : ths.Nodup) (hne : ths ≠ []) (sched : List Nat) (hs : ∀ t ∈ sched, t ∈ ths) :
    let s := run true closeDecidedByFetchSub (fun _ => .dec) (start ths.length) sched
    closers s ths ≤ 1 ∧ (s.c = 0 → closers s ths = 1) ∧ s.c + finished s ths = ths.length := by
  rw [close_decision_code_fact]
  exact one_closer ths hnd hne (fun _ => .dec) (fun _ => rfl) sched hs

/-- **C05.two_closers_witness** — it depends on the decision being taken on the fetch_sub's own result: with a separate load
after the decrement, two threads releasing the last two references both conclude that they were the last -/
theorem two_closers_witness :
    closers (run true false (fun _ => .dec) (start 2) [0, 1, 0, 1]) [0, 1] = 2 := TM.AtomicCount.two_closers_witness

example : closers (run true closeDecidedByFetchSub (fun _ => .dec) (start 3) [2, 0, 1]) [0, 1, 2] = 1 := by decide

/-- **C05.closed_exactly_when_last_handle_goes** — the span created by thread `t0`; every thread runs its own program of
clone / drop / give (a handle moved to another thread), legal only through handles it holds; every interleaving of the count
operations as the code performs them: the span is reported closed at most once, and it HAS been reported closed exactly when no
thread holds a handle any more — never while one is held, and not later than the last drop -/
theorem closed_exactly_when_last_handle_goes (ths : List Nat) (hnd : ths.Nodup) (t0 : Nat) (h0 : t0 ∈ ths)
    (sched : List (Nat × TM.HandleRace.Act)) (hs : TM.HandleRace.Within ths sched) :
    let s := TM.HandleRace.run cloneIsRmw closeDecidedByFetchSub (TM.HandleRace.start t0) sched
    s.closes ≤ 1 ∧ (s.closes = 1 ↔ ∀ t ∈ ths, s.held t = 0) := by
  rw [close_decision_code_fact, show cloneIsRmw = true from rfl]
  exact TM.HandleRace.closed_iff_no_handles (TM.HandleRace.run_inv hnd (TM.HandleRace.Inv.init hnd h0) hs)

/-- **C05.closed_under_a_handle_witness** — with a non-atomic clone: two threads clone together (one reference is lost), three
drops later the span is reported closed while a thread still holds a handle -/
theorem closed_under_a_handle_witness :
    let s := TM.HandleRace.run false true (TM.HandleRace.start 0)
      [(0, .clone), (0, .step), (0, .give 1), (0, .clone), (1, .clone), (0, .step), (1, .step), (0, .drop), (0, .drop), (1, .drop)]
    s.closes = 1 ∧ s.held 1 = 1 := by decide

/-- **C05.closed_twice_witness** — with the close decided by a separate load: the last two handles dropped together, both
drops report the span closed -/
theorem closed_twice_witness :
    (TM.HandleRace.run true false (TM.HandleRace.start 0) [(0, .clone), (0, .give 1), (0, .drop), (1, .drop), (0, .step), (1, .step)]).closes = 2 := by
  decide

example : (TM.HandleRace.run cloneIsRmw closeDecidedByFetchSub (TM.HandleRace.start 0)
    [(0, .clone), (0, .give 1), (1, .clone), (0, .drop), (1, .drop), (1, .drop)]).closes = 1 := by decide

end C05
