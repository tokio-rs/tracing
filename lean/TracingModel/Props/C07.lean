/-
C07 — "Per-layer filters are isolated: a layer sees exactly what its own filters accept"

  In any stack of layers over the registry, a layer receives a span or event (and that span's
  later enter, exit, record and close notifications) if and only if every global filter in the
  stack accepts it and every per-layer filter attached to that layer accepts it; the decision
  never depends on the filters attached to other layers, on the order of layers, or on any span,
  event or enabled-probe that happened earlier on the thread. Spans a layer's filter rejected are
  invisible to that layer when it looks up the current span or walks a scope.

Model: Core/Filtering.lean (FilterState bitmap, Filtered, Layered veto, per-span FilterMap,
interest caching through pick_interest, for stacks registry().with(n₀.and_then(n₁)…)).
-/
import TracingModel.Lemmas.Filtering
import TracingModel.Core.Lookup

namespace C07
open TM.Filtering TM.FilterExpr TM.Directive TM.FilteringLemmas
open TM.Callsite (Interest)

theorem shouldReceive_all {st : Stack} {m : Meta} {c : Ctx} (hg : globalsOk st m c = true)
    (hf : ∀ fid f n, Node.filt fid f n ∈ st → enabledF f m c = true) : shouldReceive st m c = layersOf st := by
  rw [shouldReceive, if_pos hg, layersOf, (Marks.clean hf).recv]

/-- the `sometimes` path of the front end: the `enabled` pass from a clean bitmap, then delivery -/
theorem pass_and_deliver (st : Stack) (hwf : WF st) (m : Meta) (c : Ctx) :
    let r := enabledPass m c st.reverse Bits.clean
    (r.2 = true → (deliverPass st r.1).2 = shouldReceive st m c ∧ (deliverPass st r.1).1 = Bits.clean ∧
       (∀ fid f n, Node.filt fid f n ∈ st → (fid ∈ r.1 ↔ enabledF f m c = false))) ∧
    (r.2 = false → shouldReceive st m c = [] ∧ r.1 = Bits.clean) := by
  obtain ⟨h1, h2, h3⟩ := enabledPass_spec m c st.reverse hwf.reverse Bits.clean
  rw [globalsOk_reverse] at h1 h2 h3
  refine ⟨fun e => ?_, fun e => ?_⟩
  · have hg : globalsOk st m c = true := h1 ▸ e
    obtain ⟨hm, hfr⟩ := h3 hg
    have hm' : Marks m c st (enabledPass m c st.reverse Bits.clean).1 :=
      fun fid f n h => hm fid f n (List.mem_reverse.mpr h)
    -- only bits of the stack's own filters are set, so delivery consumes them all
    have hsub : ∀ x ∈ (enabledPass m c st.reverse Bits.clean).1, x ∈ fids st := by
      intro x hx
      apply Decidable.byContradiction
      intro hn
      rw [← List.mem_reverse, ← fids_reverse] at hn
      exact nomatch (hfr x hn).mp hx
    rw [deliverPass_eq st _ hwf hsub]
    exact ⟨by rw [hm'.recv, shouldReceive, if_pos hg], rfl, hm'⟩
  · have hg : globalsOk st m c = false := h1 ▸ e
    exact ⟨shouldReceive_veto hg, h2 hg⟩

theorem emitEvent_eq (st : Stack) (s : TState) (m : Meta) (c : Ctx) :
    emitEvent st s m c = emitEventI (stackInterest st m) st s m c := rfl

theorem emitEventI_clean (st : Stack) (hwf : WF st) (i : Interest) (s : TState) (hs : s.bits = Bits.clean)
    (m : Meta) (c : Ctx) :
    emitEventI i st s m c =
      (s, match i with | .never => [] | .always => layersOf st | .sometimes => shouldReceive st m c) := by
  obtain ⟨bits, spans⟩ := s
  subst hs
  cases i with
  | never => rfl
  | always => simp only [emitEventI, if_true, deliverPass_clean st]
  | sometimes =>
    obtain ⟨p1, p2⟩ := pass_and_deliver st hwf m c
    simp only [emitEventI, reduceCtorEq, if_false]
    cases hr : (enabledPass m c st.reverse Bits.clean).2 with
    | true => simp only [if_true, (p1 hr).1, (p1 hr).2.1]
    | false => simp only [Bool.false_eq_true, if_false, (p2 hr).1, (p2 hr).2]

/-- soundness of the interest the stack publishes for caching; `interest_sound` adds `st ≠ []`, which is not needed: an
empty stack publishes `always` and has no layer to miss anything -/
theorem stackInterest_sound (st : Stack) (hh : HonestStack st) (m : Meta) :
    (stackInterest st m = .never → ∀ c, shouldReceive st m c = []) ∧
    (stackInterest st m = .always → ∀ c, globalsOk st m c = true ∧
        ∀ fid f n, Node.filt fid f n ∈ st → enabledF f m c = true) := by
  obtain ⟨hn, ha⟩ := stackInterest_cases st m
  constructor
  · intro e c
    obtain ⟨tn, ta⟩ := regTree_stack_sound m c st hh
    rcases hn e with h1 | ⟨hall, h2⟩
    · exact shouldReceive_veto (tn h1)
    · -- only per-layer-filtered layers, and every filter rejects
      rw [h2] at ta
      obtain ⟨hg, hp⟩ := ta rfl
      rw [shouldReceive, if_pos hg, List.filterMap_eq_nil_iff]
      intro nd hnd
      cases nd with
      | filt fid f n => rw [specOf, hp.1 rfl fid f n hnd]; rfl
      | plain n => cases List.all_eq_true.mp hall _ hnd
      | glob g => rfl
  · intro e c
    obtain ⟨h1, h2⟩ := ha e
    obtain ⟨hg, hp⟩ := (regTree_stack_sound m c st hh).2 h1
    exact ⟨hg, fun fid f n hm => hp.2 (h2 (List.any_eq_true.mpr ⟨_, hm, rfl⟩)) fid f n hm⟩

theorem interest_sound (st : Stack) (hne : st ≠ []) (hh : HonestStack st) (m : Meta) :
    (stackInterest st m = .never → ∀ c, shouldReceive st m c = []) ∧
    (stackInterest st m = .always → ∀ c, globalsOk st m c = true ∧
        ∀ fid f n, Node.filt fid f n ∈ st → enabledF f m c = true) := by
  have _ := hne   -- not needed: the statement holds for the empty stack too
  exact stackInterest_sound st hh m

/-- **C07.isolation_partial (events)** — for EVERY stack of plain, global-filter and
per-layer-filtered layers (distinct filter ids, honest filter expressions of any depth) and
every event metadata and context: starting from a clean per-thread bitmap — i.e. in any history
of COMPLETE emissions, see `bitmap_clean` — the event is received by exactly the layers whose own
filter accepts it, provided every global filter accepts it; whatever the cached interest says
(`never`, `sometimes`, `always`), whatever the other layers' filters are, in whatever order. -/
theorem isolation_partial (st : Stack) (hne : st ≠ []) (hwf : WF st) (hh : HonestStack st)
    (s : TState) (hs : s.bits = Bits.clean) (m : Meta) (c : Ctx) :
    (emitEvent st s m c).2 = shouldReceive st m c ∧ (emitEvent st s m c).1.bits = Bits.clean := by
  have _ := hne   -- not needed
  obtain ⟨in1, in2⟩ := stackInterest_sound st hh m
  rw [emitEvent_eq, emitEventI_clean st hwf _ s hs]
  refine ⟨?_, hs⟩
  cases hi : stackInterest st m with
  | never => exact (in1 hi c).symm
  | always => exact (shouldReceive_all (in2 hi c).1 (in2 hi c).2).symm
  | sometimes => rfl

theorem lifecycle_new (st : Stack) (bits b : Bits) (k : Nat) (spans : List (Nat × Bits)) :
    lifecycle st { bits := bits, spans := (k, b) :: spans } k = st.filterMap (recvOf b) := by
  simp only [lifecycle, List.lookup_cons_self]
  apply TM.Lists.filterMap_congr
  intro nd _
  cases nd <;> simp [recvOf, isDisabled]

theorem emitSpan_spec (st : Stack) (hwf : WF st) (hh : HonestStack st)
    (s : TState) (hs : s.bits = Bits.clean) (k : Nat) (m : Meta) (c : Ctx) :
    (emitSpan st s k m c).2 = shouldReceive st m c ∧ (emitSpan st s k m c).1.bits = Bits.clean ∧
    ((emitSpan st s k m c).1.spans = s.spans ∨
      ∃ b, (emitSpan st s k m c).1.spans = (k, b) :: s.spans ∧ globalsOk st m c = true ∧ Marks m c st b) := by
  obtain ⟨in1, in2⟩ := stackInterest_sound st hh m
  obtain ⟨p1, p2⟩ := pass_and_deliver st hwf m c
  unfold emitSpan
  rw [hs]
  cases hi : stackInterest st m with
  | never => exact ⟨(in1 hi c).symm, hs, Or.inl rfl⟩
  | always =>
    obtain ⟨hg, hf⟩ := in2 hi c
    simp only [if_true, deliverPass_clean st]
    exact ⟨(shouldReceive_all hg hf).symm, trivial, Or.inr ⟨_, rfl, hg, Marks.clean hf⟩⟩
  | sometimes =>
    simp only [reduceCtorEq, if_false]
    cases hr : (enabledPass m c st.reverse Bits.clean).2 with
    | true =>
      have hg := (enabledPass_spec m c st.reverse hwf.reverse Bits.clean).1
      rw [hr, globalsOk_reverse] at hg
      exact ⟨(p1 hr).1, (p1 hr).2.1, Or.inr ⟨_, rfl, hg.symm, (p1 hr).2.2⟩⟩
    | false => exact ⟨(p2 hr).1.symm, (p2 hr).2, Or.inl rfl⟩

/-- **C07.isolation_spans** — `isolation_partial` for span creation, and every
later enter / exit / record / close of that span is delivered to exactly the layers that received
its creation -/
theorem isolation_spans (st : Stack) (hne : st ≠ []) (hwf : WF st) (hh : HonestStack st)
    (s : TState) (hs : s.bits = Bits.clean) (k : Nat) (m : Meta) (c : Ctx) :
    (emitSpan st s k m c).2 = shouldReceive st m c ∧ (emitSpan st s k m c).1.bits = Bits.clean ∧
    ((emitSpan st s k m c).1.spans.lookup k ≠ s.spans.lookup k →
       lifecycle st (emitSpan st s k m c).1 k = shouldReceive st m c) := by
  have _ := hne   -- not needed
  obtain ⟨h1, h2, h3⟩ := emitSpan_spec st hwf hh s hs k m c
  -- the guard: `k`'s stored map changed, i.e. this creation was stored (it was not a `never` / vetoed one)
  refine ⟨h1, h2, fun hstored => ?_⟩
  rcases h3 with e | ⟨b, e, hg, hm⟩
  · rw [e] at hstored; exact absurd rfl hstored
  · rw [shouldReceive, if_pos hg, ← hm.recv, ← lifecycle_new st (emitSpan st s k m c).1.bits b k s.spans, ← e]

/-- **C07.bitmap_clean** — after every complete emission (event or span, delivered, filtered out or
vetoed globally) the thread's bitmap is empty again, so the next emission starts clean: by
induction, every emission in a history of complete emissions is judged by `isolation_partial` -/
theorem bitmap_clean (st : Stack) (hne : st ≠ []) (hwf : WF st) (hh : HonestStack st)
    (evs : List (Meta × Ctx)) (s : TState) (hs : s.bits = Bits.clean) :
    (evs.foldl (fun s e => (emitEvent st s e.1 e.2).1) s).bits = Bits.clean ∧
    ∀ (pre : List (Meta × Ctx)) (e : Meta × Ctx) (post : List (Meta × Ctx)), evs = pre ++ e :: post →
      (emitEvent st (pre.foldl (fun s e => (emitEvent st s e.1 e.2).1) s) e.1 e.2).2 = shouldReceive st e.1 e.2 := by
  have key : ∀ l : List (Meta × Ctx), (l.foldl (fun s e => (emitEvent st s e.1 e.2).1) s).bits = Bits.clean :=
    fun l => List.foldlRecOn l _ (motive := fun s => s.bits = Bits.clean) hs
      fun s hs e _ => (isolation_partial st hne hwf hh s hs e.1 e.2).2
  exact ⟨key evs, fun pre e post _ => (isolation_partial st hne hwf hh _ (key pre) e.1 e.2).1⟩

/-- **C07.probe_witness** — the full statement ("…or any enabled-probe that happened earlier on the
thread") is false: after a bare `enabled` probe that a per-layer filter rejects dynamically, the
next event — which that filter accepts, cached `always` — is not delivered to its layer (F3). -/
theorem probe_witness :
    let f : FExpr := .disj (.level 2) (.dyn (fun m c => c == 1 && decide (m.level ≤ 5)) none none)
    let st : Stack := [.plain 1, .filt 0 f 2]
    let warn : Meta := { target := [], level := 2, isEvent := true, fields := [] }
    let trace : Meta := { target := [], level := 5, isEvent := true, fields := [] }
    let s1 := (probe st TState.init trace 0).1
    shouldReceive st warn 0 = [1, 2] ∧ (emitEvent st TState.init warn 0).2 = [1, 2] ∧
    (emitEvent st s1 warn 0).2 = [1] := by decide

open TM.Lookup in
/-- **C07.span_map_spec** — the `FilterMap` the registry stores with a span created from a clean
bitmap has exactly the bits of the per-layer filters that REJECTED the span (whatever the cached
interest was) -/
theorem span_map_spec (st : Stack) (hne : st ≠ []) (hwf : WF st) (hh : HonestStack st)
    (s : TState) (hs : s.bits = Bits.clean) (k : Nat) (m : Meta) (c : Ctx) (map : Bits)
    (hnew : s.spans.lookup k = none) (hl : (emitSpan st s k m c).1.spans.lookup k = some map) :
    ∀ fid f n, Node.filt fid f n ∈ st → (isDisabled map fid = true ↔ enabledF f m c = false) := by
  have _ := hne   -- not needed
  rcases (emitSpan_spec st hwf hh s hs k m c).2.2 with e | ⟨b, e, _, hm⟩
  · rw [e, hnew] at hl; cases hl
  · rw [e, List.lookup_cons_self] at hl
    cases hl
    exact fun fid f n h => (isDisabled_iff _ fid).trans (hm fid f n h)

open TM.Lookup in
/-- **C07.visible_iff_accepted** — a newly created span is visible to the lookups of a per-layer-filtered
layer if and only if that layer's own filter accepted the span: not the other layers' filters, not
their order, not the cache -/
theorem visible_iff_accepted (st : Stack) (hne : st ≠ []) (hwf : WF st) (hh : HonestStack st)
    (s : LState) (hs : s.t.bits = Bits.clean) (k : Nat) (m : Meta) (c : Ctx) (p : Par)
    (hfresh : exists_ s k = false) (hcreated : exists_ (newSpan st s k m c p).1 k = true)
    (fid : Nat) (f : FExpr) (n : Nat) (hm : Node.filt fid f n ∈ st) :
    visible (newSpan st s k m c p).1 (some fid) k = enabledF f m c := by
  have hnew : s.t.spans.lookup k = none := by
    simpa [exists_] using hfresh
  have hT : (newSpan st s k m c p).1.t = (emitSpan st s.t k m c).1 := by
    simp only [newSpan]; split <;> rfl
  simp only [exists_, hT] at hcreated
  cases hl : (emitSpan st s.t k m c).1.spans.lookup k with
  | none => simp [hl] at hcreated
  | some map =>
    have key := span_map_spec st hne hwf hh s.t hs k m c map hnew hl fid f n hm
    simp only [visible, hT, hl]
    revert key
    cases isDisabled map fid <;> cases enabledF f m c <;> simp

open TM.Lookup in
/-- **C07.lookups_hide_rejected** — every span any lookup hands to a layer is one its filter accepted
(`visible`): `Context::span`, `lookup_current`, every element of `span_scope` / `event_scope`,
`SpanRef::parent`, `event_span` — for contextual, explicit and root parents -/
theorem lookups_hide_rejected (s : LState) (ofid : Option Nat) :
    (∀ k x, spanRef s ofid k = some x → visible s ofid x = true) ∧
    (∀ x, lookupCurrent s ofid = some x → visible s ofid x = true ∧ x ∈ s.stack) ∧
    (∀ k x, x ∈ scopeFrom s ofid k → visible s ofid x = true ∧ x ∈ ancestors s k) ∧
    (∀ k x, parentRef s ofid k = some x → visible s ofid x = true) ∧
    (∀ p x, eventSpan s ofid p = some x → visible s ofid x = true) ∧
    (∀ p l x, eventScope s ofid p = some l → x ∈ l → visible s ofid x = true) := by
  have hcur : ∀ x, lookupCurrent s ofid = some x → visible s ofid x = true ∧ x ∈ s.stack :=
    fun x h => ⟨List.find?_some h, List.mem_of_find?_eq_some h⟩
  have hspan : ∀ k x, spanRef s ofid k = some x → visible s ofid x = true := by
    intro k x h
    obtain ⟨hv, e⟩ := Option.ite_none_right_eq_some.mp h
    cases e
    exact hv
  have hscope : ∀ k x, x ∈ scopeFrom s ofid k → visible s ofid x = true ∧ x ∈ ancestors s k :=
    fun k x h => (List.mem_filter.mp h).symm
  have hev : ∀ p x, eventSpan s ofid p = some x → visible s ofid x = true := by
    intro p x h
    cases p with
    | root => cases h
    | contextual => exact (hcur x h).1
    | explicit j => exact hspan j x (Option.ite_none_right_eq_some.mp h).2
  refine ⟨hspan, hcur, hscope, fun k x h => List.find?_some h, hev, fun p l x h hx => ?_⟩
  obtain ⟨y, _, rfl⟩ := Option.map_eq_some_iff.mp h
  exact (hscope y x hx).1

open TM.Lookup in
/-- **C07.scope_complete** — and nothing the filter accepted is hidden: a scope contains every visible span of
the chain, in chain order (it is the chain, filtered) -/
theorem scope_complete (s : LState) (ofid : Option Nat) (k x : Nat)
    (hx : x ∈ ancestors s k) (hv : visible s ofid x = true) : x ∈ scopeFrom s ofid k :=
  List.mem_filter.mpr ⟨hx, hv⟩

open TM.Lookup in
/-- non-vacuity: layer 2 (filter: ERROR only, filter id 0) is not shown the INFO span 0 — neither as the parent of the
span it accepted nor in its scope — while the unfiltered layer 1 sees the whole chain -/
example :
    let st : Stack := [.plain 1, .filt 0 (.level 1) 2]
    let info : Meta := { target := [], level := 3, isEvent := false, fields := [] }
    let err : Meta := { target := [], level := 1, isEvent := false, fields := [] }
    let s1 := (newSpan st LState.init 0 info 0 .root).1
    let s2 := (newSpan st s1 1 err 0 (.explicit 0)).1
    scopeFrom s2 none 1 = [1, 0] ∧ scopeFrom s2 (some 0) 1 = [1] ∧ parentRef s2 (some 0) 1 = none ∧
    parentRef s2 none 1 = some 0 := by decide

end C07
