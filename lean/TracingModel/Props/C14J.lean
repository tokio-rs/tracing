/-
C14, the headline — "every record is a single line that parses as one JSON object … faithful to the data".

An independent reader of JSON text (RFC 8259 values: null / true / false / numbers / strings with
escapes / arrays / objects; compact form) is defined here, and it is proved that reading the rendering
of ANY JSON value of the model — any nesting depth, any strings — gives back exactly that value and
leaves exactly the text that followed it.  Applied to a record: the line is ONE object followed by the
newline, and its members are the data the formatter was given.  The reader takes any `numStart` character
followed by `numChar`s for a number and accepts repeated keys: the number syntax of the opaque float tokens
and the uniqueness of keys are left to the external parser that judges the real output.
-/
import TracingModel.Props.C14

namespace C14
open TM.Json

def numChar (c : Nat) : Bool := (48 ≤ c && c ≤ 57) || c = 45 || c = 43 || c = 46 || c = 101 || c = 69
def numStart (c : Nat) : Bool := (48 ≤ c && c ≤ 57) || c = 45

/-- the body of a string, after the opening quote, up to and including the closing quote -/
def readBody : Nat → Str → Option (Str × Str)
  | 0, _ => none
  | _ + 1, [] => none
  | n + 1, c :: rest =>
    if c = 34 then some ([], rest)
    else match unesc1 (c :: rest) with
      | some (x, r) => (readBody n r).map (fun p => (x :: p.1, p.2))
      | none => none

mutual
  def readV : Nat → Str → Option (J × Str)
    | 0, _ => none
    | n + 1, s =>
      match s with
      | [] => none
      | c :: r =>
        if numStart c then some (.num ((c :: r).takeWhile numChar), (c :: r).dropWhile numChar)
        else match c :: r with
          | 110 :: 117 :: 108 :: 108 :: r => some (.null, r)
          | 116 :: 114 :: 117 :: 101 :: r => some (.bool true, r)
          | 102 :: 97 :: 108 :: 115 :: 101 :: r => some (.bool false, r)
          | 34 :: r => (readBody (r.length + 1) r).map (fun p => (.str p.1, p.2))
          | 91 :: 93 :: r => some (.arr [], r)
          | 91 :: r => (readElems n r).map (fun p => (.arr p.1, p.2))
          | 123 :: 125 :: r => some (.obj [], r)
          | 123 :: r => (readMembers n r).map (fun p => (.obj p.1, p.2))
          | _ => none
  /-- one or more values separated by commas, then `]` -/
  def readElems : Nat → Str → Option (List J × Str)
    | 0, _ => none
    | n + 1, s =>
      match readV n s with
      | some (v, 44 :: r) => (readElems n r).map (fun p => (v :: p.1, p.2))
      | some (v, 93 :: r) => some ([v], r)
      | _ => none
  /-- one or more `"key":value` separated by commas, then `}` -/
  def readMembers : Nat → Str → Option (List (Str × J) × Str)
    | 0, _ => none
    | n + 1, s =>
      match s with
      | 34 :: r =>
        match readBody (r.length + 1) r with
        | some (k, 58 :: r2) =>
          match readV n r2 with
          | some (v, 44 :: r3) => (readMembers n r3).map (fun p => ((k, v) :: p.1, p.2))
          | some (v, 125 :: r3) => some ([(k, v)], r3)
          | _ => none
        | _ => none
      | _ => none
end

theorem readBody_step (n : Nat) {s r : Str} {c : Nat} (h : unesc1 s = some (c, r)) :
    readBody (n + 1) s = (readBody n r).map fun p => (c :: p.1, p.2) := by
  cases s with
  | nil => cases h
  | cons a s =>
    have ha : a ≠ 34 := by rintro rfl; simp [unesc1] at h
    simp only [readBody, ha, if_false, h]

theorem readBody_escape (s rest : Str) : ∀ n, s.length < n → readBody n (escape s ++ 34 :: rest) = some (s, rest) := by
  induction s with
  | nil => intro n hn; cases n with | zero => cases hn | succ n => rfl
  | cons c cs ih =>
    intro n hn
    cases n with
    | zero => cases hn
    | succ n =>
      show readBody (n + 1) (esc1 c ++ escape cs ++ 34 :: rest) = _
      rw [List.append_assoc, readBody_step n (esc1_unesc1 c _), ih n (Nat.lt_of_succ_lt_succ hn)]
      rfl

theorem readBody_quote (s rest : Str) :
    readBody ((escape s ++ 34 :: rest).length + 1) (escape s ++ 34 :: rest) = some (s, rest) := by
  apply readBody_escape
  have := length_le_escape s
  simp only [List.length_append]; omega

def numTok (t : Str) : Prop := (∃ c r, t = c :: r ∧ numStart c = true) ∧ ∀ c ∈ t, numChar c = true

/-- `readV` takes a number token up to the first character that is not a `numChar`: the text after a value must not start
with one (inside a record it starts with `,` `]` `}` or the newline) -/
def RestOK (rest : Str) : Prop := ∀ c r, rest = c :: r → numChar c = false

mutual
  /-- every number token, at any depth, is a `numTok`; nothing else is asked -/
  def wf : J → Prop
    | .num t => numTok t
    | .arr l => wfL l
    | .obj l => wfF l
    | _ => True
  def wfL : List J → Prop
    | [] => True
    | x :: r => wf x ∧ wfL r
  def wfF : List (Str × J) → Prop
    | [] => True
    | (_, v) :: r => wf v ∧ wfF r
end

mutual
  /-- the number of nodes (leaves, arrays, objects): `2 * jsize j` is the fuel with which `readV` reads `j` back (`roundtrip`) -/
  def jsize : J → Nat
    | .arr l => 1 + jsizeL l
    | .obj l => 1 + jsizeF l
    | _ => 1
  def jsizeL : List J → Nat
    | [] => 0
    | x :: r => jsize x + jsizeL r
  def jsizeF : List (Str × J) → Nat
    | [] => 0
    | (_, v) :: r => jsize v + jsizeF r
end

theorem jsize_pos (j : J) : 1 ≤ jsize j := by
  cases j <;> simp only [jsize] <;> omega

theorem restOK_cons {c : Nat} {r : Str} (h : numChar c = false) : RestOK (c :: r) := by
  intro c' r' e; cases e; exact h

theorem readV_num (n : Nat) {t rest : Str} (ht : numTok t) (hr : RestOK rest) :
    readV (n + 1) (t ++ rest) = some (.num t, rest) := by
  obtain ⟨⟨c, r, rfl, hc⟩, hall⟩ := ht
  have hrest : rest.takeWhile numChar = [] ∧ rest.dropWhile numChar = rest := by
    cases rest with
    | nil => exact ⟨rfl, rfl⟩
    | cons x xs => simp [hr x xs rfl]
  show (if numStart c = true then some (J.num ((c :: r ++ rest).takeWhile numChar), (c :: r ++ rest).dropWhile numChar)
    else _) = _
  rw [if_pos hc, List.takeWhile_append_of_pos hall, List.dropWhile_append_of_pos hall, hrest.1, hrest.2, List.append_nil]

theorem quote_append (s rest : Str) : quote s ++ rest = 34 :: (escape s ++ 34 :: rest) := by
  simp [quote]

theorem readV_str (n : Nat) (s rest : Str) : readV (n + 1) (quote s ++ rest) = some (.str s, rest) := by
  rw [quote_append]
  show (readBody _ _).map _ = _
  rw [readBody_quote]
  rfl

theorem readElems_last {n : Nat} {s r : Str} {v : J} (h : readV n s = some (v, 93 :: r)) :
    readElems (n + 1) s = some ([v], r) := by
  simp only [readElems, h]

theorem readElems_more {n : Nat} {s r r' : Str} {v : J} {l : List J} (h : readV n s = some (v, 44 :: r))
    (hl : readElems n r = some (l, r')) : readElems (n + 1) s = some (v :: l, r') := by
  simp only [readElems, h, hl]; rfl

theorem readMembers_last {n : Nat} {t r : Str} {v : J} (k : Str) (h : readV n t = some (v, 125 :: r)) :
    readMembers (n + 1) (quote k ++ 58 :: t) = some ([(k, v)], r) := by
  rw [quote_append]
  simp only [readMembers, readBody_quote, h]

theorem readMembers_more {n : Nat} {t r r' : Str} {v : J} {l : List (Str × J)} (k : Str) (h : readV n t = some (v, 44 :: r))
    (hl : readMembers n r = some (l, r')) : readMembers (n + 1) (quote k ++ 58 :: t) = some ((k, v) :: l, r') := by
  rw [quote_append]
  simp only [readMembers, readBody_quote, h, hl]; rfl

theorem render_head (j : J) (hw : wf j) : ∃ c r, render j = c :: r ∧ c ≠ 93 := by
  cases j with
  | null => exact ⟨110, _, rfl, by decide⟩
  | bool b => cases b <;> exact ⟨_, _, rfl, by decide⟩
  | num t =>
    obtain ⟨⟨c, r, rfl, hc⟩, _⟩ := hw
    exact ⟨c, r, rfl, by rintro rfl; cases hc⟩
  | str s => exact ⟨34, _, rfl, by decide⟩
  | arr l => exact ⟨91, _, rfl, by decide⟩
  | obj l => exact ⟨123, _, rfl, by decide⟩

theorem readV_arr {n : Nat} {x : J} {t r : Str} {l : List J} (hw : wf x) (h : readElems n (render x ++ t) = some (l, r)) :
    readV (n + 1) (91 :: (render x ++ t)) = some (.arr l, r) := by
  -- a rendering never starts with `]`, so `[` followed by one is not taken for the empty array
  obtain ⟨c, s, e, hc⟩ := render_head x hw
  rw [e, List.cons_append] at h ⊢
  rw [readV]
  simp [numStart, hc, h]

theorem readV_obj {n : Nat} {k t r : Str} {l : List (Str × J)} (h : readMembers n (quote k ++ t) = some (l, r)) :
    readV (n + 1) (123 :: (quote k ++ t)) = some (.obj l, r) := by
  rw [quote_append] at h ⊢
  rw [readV]
  simp [numStart, h]

theorem renderList_cons2 (x y : J) (ys : List J) : renderList (x :: y :: ys) = render x ++ [44] ++ renderList (y :: ys) := by
  simp [renderList]

theorem renderFields_cons2 (k : Str) (v : J) (p : Str × J) (ps : List (Str × J)) :
    renderFields ((k, v) :: p :: ps) = quote k ++ [58] ++ render v ++ [44] ++ renderFields (p :: ps) := by
  simp [renderFields]

theorem renderList_head (x : J) (xs : List J) (rest : Str) : ∃ t, renderList (x :: xs) ++ rest = render x ++ t := by
  cases xs with
  | nil => exact ⟨rest, rfl⟩
  | cons y ys => exact ⟨_, by rw [renderList_cons2, List.append_assoc, List.append_assoc]⟩

theorem renderFields_head (k : Str) (v : J) (ps : List (Str × J)) (rest : Str) :
    ∃ t, renderFields ((k, v) :: ps) ++ rest = quote k ++ t := by
  cases ps with
  | nil => exact ⟨_, by rw [renderFields, List.append_assoc, List.append_assoc]⟩
  | cons q qs => exact ⟨_, by rw [renderFields_cons2]; simp only [List.append_assoc]; rfl⟩

/-- **the reader inverts the renderer**, for values, non-empty element lists and non-empty member lists alike -/
theorem roundtrip (n : Nat) :
    (∀ j rest, wf j → RestOK rest → 2 * jsize j ≤ n → readV n (render j ++ rest) = some (j, rest)) ∧
    (∀ l rest, wfL l → l ≠ [] → 2 * jsizeL l + 1 ≤ n → readElems n (renderList l ++ [93] ++ rest) = some (l, rest)) ∧
    (∀ l rest, wfF l → l ≠ [] → 2 * jsizeF l + 1 ≤ n → readMembers n (renderFields l ++ [125] ++ rest) = some (l, rest)) := by
  -- fuel bounds the nesting of calls and is not used up along the text: a call with `n + 1` hands `n` to each of its sub-calls.
  -- A list nests one `readElems` / `readMembers` level per value and that value's `readV` under it: two units per node pay
  -- for both, hence `2 * jsize`.  The list levels sit ABOVE the values' (`[x]` needs `1 + 2 * jsize x`), hence `+ 1`, which
  -- `.arr l` / `.obj l` supply from their own two units: `2 * (1 + jsizeL l) = 1 + (2 * jsizeL l + 1)`.
  induction n with
  | zero =>
    refine ⟨fun j _ _ _ h => ?_, fun _ _ _ _ h => ?_, fun _ _ _ _ h => ?_⟩
    · have := jsize_pos j; omega
    · omega
    · omega
  | succ n ih =>
    obtain ⟨ihV, ihL, ihF⟩ := ih
    -- every text is brought to the form `a ++ c :: b`, in the hypotheses as in the goals
    simp only [List.append_assoc, List.singleton_append] at ihL ihF ⊢
    refine ⟨?_, ?_, ?_⟩
    · intro j rest hw hr hn
      cases j with
      | null => rfl
      | bool b => cases b <;> rfl
      | num t => exact readV_num n hw hr
      | str s => exact readV_str n s rest
      | arr l =>
        cases l with
        | nil => rfl
        | cons x xs =>
          have h := ihL (x :: xs) rest hw (List.cons_ne_nil _ _) (by simp only [jsize] at hn; omega)
          obtain ⟨t, e⟩ := renderList_head x xs (93 :: rest)
          simp only [render, List.append_assoc, List.cons_append, List.nil_append, e] at h ⊢
          exact readV_arr hw.1 h
      | obj l =>
        cases l with
        | nil => rfl
        | cons p ps =>
          obtain ⟨k, v⟩ := p
          have h := ihF ((k, v) :: ps) rest hw (List.cons_ne_nil _ _) (by simp only [jsize] at hn; omega)
          obtain ⟨t, e⟩ := renderFields_head k v ps (125 :: rest)
          simp only [render, List.append_assoc, List.cons_append, List.nil_append, e] at h ⊢
          exact readV_obj h
    · intro l rest hw hl hn
      match l, hw, hn with
      | [], _, _ => exact absurd rfl hl
      | [x], hw, hn =>
        exact readElems_last (ihV x _ hw.1 (restOK_cons rfl) (by simp only [jsizeL] at hn; omega))
      | x :: y :: ys, hw, hn =>
        have := jsize_pos x
        simp only [jsizeL] at hn
        rw [renderList_cons2]
        simp only [List.append_assoc, List.singleton_append]
        exact readElems_more (ihV x _ hw.1 (restOK_cons rfl) (by omega))
          (ihL (y :: ys) rest hw.2 (List.cons_ne_nil _ _) (by simp only [jsizeL]; omega))
    · intro l rest hw hl hn
      match l, hw, hn with
      | [], _, _ => exact absurd rfl hl
      | [(k, v)], hw, hn =>
        simp only [renderFields, List.append_assoc, List.singleton_append]
        exact readMembers_last k (ihV v _ hw.1 (restOK_cons rfl) (by simp only [jsizeF] at hn; omega))
      | (k, v) :: q :: qs, hw, hn =>
        have := jsize_pos v
        simp only [jsizeF] at hn
        rw [renderFields_cons2]
        simp only [List.append_assoc, List.singleton_append]
        exact readMembers_more k (ihV v _ hw.1 (restOK_cons rfl) (by omega))
          (ihF (q :: qs) rest hw.2 (List.cons_ne_nil _ _) (by simp only [jsizeF]; omega))

/-- **C14.render_roundtrip** — reading the rendering of ANY well-formed JSON value (any depth, any strings, any keys),
followed by any text that does not continue a number, gives back exactly that value and exactly that text -/
theorem render_roundtrip (j : J) (rest : Str) (hw : wf j) (hr : RestOK rest) :
    readV (2 * jsize j) (render j ++ rest) = some (j, rest) :=
  (roundtrip (2 * jsize j)).1 j rest hw hr (Nat.le_refl _)

/-- the numbers the formatter writes itself (`renderNat`, `renderInt`) are `numTok`s: of a record's values `wf` asks something
only for the float tokens (`FloatsOK`) -/
theorem natDigits_ok (fuel n : Nat) : natDigits fuel n ≠ [] ∧ ∀ c ∈ natDigits fuel n, 48 ≤ c ∧ c ≤ 57 := by
  fun_induction natDigits fuel n with
  | case1 => simp
  | case2 => exact ⟨List.cons_ne_nil _ _, fun c hc => by cases List.mem_singleton.mp hc; omega⟩
  | case3 _ n _ ih =>
    have := Nat.mod_lt n (by decide : 0 < 10)
    refine ⟨by simp, fun c hc => (List.mem_append.mp hc).elim (ih.2 c) fun hc => ?_⟩
    cases List.mem_singleton.mp hc
    omega

theorem digit_numChar {c : Nat} (h : 48 ≤ c ∧ c ≤ 57) : numChar c = true ∧ numStart c = true := by
  simp [numChar, numStart, h.1, h.2]

theorem renderNat_numTok (n : Nat) : numTok (renderNat n) := by
  obtain ⟨h1, h2⟩ := natDigits_ok (n + 1) n
  simp only [renderNat]
  cases hd : natDigits (n + 1) n with
  | nil => exact absurd hd h1
  | cons c r =>
    rw [hd] at h2
    refine ⟨⟨c, r, rfl, (digit_numChar (h2 c (by simp))).2⟩, ?_⟩
    intro x hx
    exact (digit_numChar (h2 x hx)).1

theorem renderInt_numTok (n : Int) : numTok (renderInt n) := by
  cases n with
  | ofNat k => exact renderNat_numTok k
  | negSucc k =>
    obtain ⟨_, hall⟩ := renderNat_numTok (k + 1)
    refine ⟨⟨45, renderNat (k + 1), rfl, by decide⟩, ?_⟩
    intro x hx
    rcases List.mem_cons.mp hx with rfl | hx
    · decide
    · exact hall x hx

/-- float tokens cross the harness as opaque decimal tokens: they are JSON number tokens -/
def FloatsOK (fs : List (Str × Val)) : Prop := ∀ k t, (k, Val.f (some t)) ∈ fs → numTok t

theorem toJ_wf {v : Val} {j : J} (h : v.toJ = some j) (hf : ∀ t, v = .f (some t) → numTok t) : wf j := by
  cases v with
  | i n => cases h; exact renderInt_numTok n
  | u n => cases h; exact renderNat_numTok n
  | f t =>
    cases t with
    | none => cases h; trivial
    | some t => cases h; exact hf t rfl
  | b x | s x | d x => cases h; trivial
  | empty => cases h

theorem wfF_iff (l : List (Str × J)) : wfF l ↔ ∀ p ∈ l, wf p.2 := by
  induction l with
  | nil => simp [wfF]
  | cons p ps ih => obtain ⟨k, v⟩ := p; simp [wfF, ih]

theorem wfL_iff (l : List J) : wfL l ↔ ∀ j ∈ l, wf j := by
  induction l with
  | nil => simp [wfL]
  | cons p ps ih => simp [wfL, ih]

theorem wfF_append {a b : List (Str × J)} (ha : wfF a) (hb : wfF b) : wfF (a ++ b) := by
  rw [wfF_iff] at ha hb ⊢
  exact fun p hp => (List.mem_append.mp hp).elim (ha p) (hb p)

/-- `key`: the name as it is for `eventFields`, without its raw-identifier prefix for `pairs` -/
theorem visited_wf (key : Str → Val → Str) (fs : List (Str × Val)) (hf : FloatsOK fs) :
    ∀ q ∈ fs.filterMap (fun (k, v) => v.toJ.map fun j => (key k v, j)), wf q.2 := by
  intro q hq
  obtain ⟨⟨k, v⟩, hm, hj⟩ := List.mem_filterMap.mp hq
  obtain ⟨j, hv, rfl⟩ := Option.map_eq_some_iff.mp (hj : (v.toJ.map fun j => (key k v, j)) = some q)
  exact toJ_wf hv fun t e => hf k t (e ▸ hm)

theorem eventObj_wf (c : Cfg) (lvl : Nat) (target : Str) (fs : List (Str × Val)) (scope : List SpanData)
    (hf : FloatsOK fs) (hs : ∀ sd ∈ scope, wfF sd.fields) : wf (eventObj c lvl target fs scope) := by
  have hspan : ∀ sd ∈ scope, wf (spanObj sd) := fun sd h => wfF_append (hs sd h) ⟨trivial, trivial⟩
  have hE : wfF (eventFields fs) := (wfF_iff _).mpr (visited_wf (fun k _ => k) fs hf)
  refine wfF_append (wfF_append (wfF_append ?_ ?_) ?_) ?_
  · split
    · exact ⟨trivial, trivial⟩
    · trivial
  · split
    · exact hE
    · exact ⟨hE, trivial⟩
  · split
    · exact ⟨trivial, trivial⟩
    · trivial
  · cases hl : scope.getLast? with
    | none => trivial
    | some leaf =>
      refine wfF_append ?_ ?_ <;> split
      · exact ⟨hspan leaf (List.mem_of_getLast? hl), trivial⟩
      · trivial
      · exact ⟨(wfL_iff _).mpr (List.forall_mem_map.mpr hspan), trivial⟩
      · trivial

/-- **C14.record_is_one_json_object** — every record line, for EVERY configuration of level / target / flatten_event /
current_span / span_list, every set of event fields (any names, any strings, integers, booleans, floats, Debug / Display
texts) and every span scope: an independent JSON reader consumes the line up to its newline as ONE value, that value is an
object, and it is exactly the object the formatter was given — nothing is lost or altered by the text form -/
theorem record_is_one_json_object (c : Cfg) (lvl : Nat) (target : Str) (fs : List (Str × Val)) (scope : List SpanData)
    (hf : FloatsOK fs) (hs : ∀ sd ∈ scope, wfF sd.fields) :
    readV (2 * jsize (eventObj c lvl target fs scope)) (recordLine c lvl target fs scope) = some (eventObj c lvl target fs scope, [10]) ∧
    ∃ members, eventObj c lvl target fs scope = .obj members := by
  refine ⟨?_, ⟨_, rfl⟩⟩
  exact render_roundtrip _ [10] (eventObj_wf c lvl target fs scope hf hs) (restOK_cons rfl)

/-- every recorded event field is a member, under its own name, with the value of the documented type mapping -/
theorem event_field_present (fs : List (Str × Val)) (k : Str) (v : Val) (j : J) (hm : (k, v) ∈ fs) (hj : v.toJ = some j) :
    (k, j) ∈ eventFields fs := by
  simp only [eventFields, List.mem_filterMap]
  exact ⟨(k, v), hm, by simp [hj]⟩

/-- what `record` stores stays well-formed JSON (so the hypothesis on span fields above is met by every history) -/
theorem recordInto_wf (stored : List (Str × J)) (fs : List (Str × Val)) (hst : wfF stored) (hf : FloatsOK fs) : wfF (recordInto stored fs) :=
  (wfF_iff _).mpr fun q hq => (mem_recordInto hq).elim ((wfF_iff _).mp hst q) (visited_wf stripRaw fs hf q)

/-- non-vacuity: a nested record with hostile strings reads back -/
example :
    let j : J := .obj [(ofAscii "a\"b", .arr [.num (renderInt (-12)), .str [34, 92, 10, 0x1F600], .obj [], .arr [], .null]),
                       (ofAscii "", .bool true)]
    (readV (2 * jsize j) (render j ++ [10])).map (fun p => (render p.1, p.2)) = some (render j, [10]) ∧
    render j = ofAscii "{\"a\\\"b\":[-12,\"\\\"\\\\\\n" ++ [0x1F600] ++ ofAscii "\",{},[],null],\"\":true}" := by decide

/-- a line-oriented reader of the output stream: one JSON value, then the newline, then the next line -/
def readStream : List Nat → Str → Option (List J)
  | [], [] => some []
  | [], _ :: _ => none
  | f :: fs, s =>
    match readV f s with
    | some (j, 10 :: rest) => (readStream fs rest).map (j :: ·)
    | _ => none

/-- **C14.stream_roundtrip** — the concatenation of ANY number of rendered well-formed values, each followed by its newline, is
read back line by line as exactly those values in exactly that order: no line swallows part of the next, none is split -/
theorem stream_roundtrip (js : List J) (hw : ∀ j ∈ js, wf j) :
    readStream (js.map (fun j => 2 * jsize j)) (js.flatMap (fun j => render j ++ [10])) = some js := by
  induction js with
  | nil => simp [readStream]
  | cons j js ih =>
    have h1 : readV (2 * jsize j) (render j ++ (10 :: js.flatMap (fun j => render j ++ [10]))) =
        some (j, 10 :: js.flatMap (fun j => render j ++ [10])) :=
      render_roundtrip j _ (hw j List.mem_cons_self) (restOK_cons rfl)
    have h2 := ih fun x hx => hw x (List.mem_cons_of_mem _ hx)
    simp only [List.map_cons, List.flatMap_cons, List.append_assoc, List.cons_append, List.nil_append, readStream, h1, h2,
      Option.map_some]

structure Rec where
  c : Cfg
  lvl : Nat
  target : Str
  fs : List (Str × Val)
  scope : List SpanData

def Rec.obj (r : Rec) : J := eventObj r.c r.lvl r.target r.fs r.scope
def Rec.line (r : Rec) : Str := recordLine r.c r.lvl r.target r.fs r.scope

/-- **C14.output_is_one_object_per_line** — the whole output of a history of records of ANY length (every configuration, every
field set, every scope) is read back by the line-oriented reader as exactly one object per record, in the order of the records,
each the object the formatter was given -/
theorem output_is_one_object_per_line (rs : List Rec)
    (hf : ∀ r ∈ rs, FloatsOK r.fs) (hs : ∀ r ∈ rs, ∀ sd ∈ r.scope, wfF sd.fields) :
    readStream (rs.map (fun r => 2 * jsize r.obj)) (rs.flatMap Rec.line) = some (rs.map Rec.obj) := by
  have h := stream_roundtrip (rs.map Rec.obj) (by
    intro j hj
    obtain ⟨r, hr, rfl⟩ := List.mem_map.mp hj
    exact eventObj_wf r.c r.lvl r.target r.fs r.scope (hf r hr) (hs r hr))
  -- `Rec.line r` unfolds to `render r.obj ++ [10]`: the two streams agree by definition
  rw [List.map_map, List.flatMap_map] at h
  exact h

example :
    let js : List J := [.obj [(ofAscii "a", .arr [.num (ofAscii "-12"), .null])], .obj [], .obj [(ofAscii "", .bool true)]]
    (readStream (js.map (fun j => 2 * jsize j)) (js.flatMap (fun j => render j ++ [10]))).map (·.map render) = some (js.map render) ∧
    (readStream (js.map (fun j => 2 * jsize j)) ((js.flatMap (fun j => render j ++ [10])).drop 1)).map (·.map render) = none := by
  decide

end C14
