/-
C17 — "#[instrument] preserves behaviour exactly and adds one well-formed span per call"

  A function carrying the instrument attribute returns the same value, panics with the same
  payload, evaluates and drops its arguments the same number of times and has the same side effects
  as the identical function without the attribute, under any collector or none. Each call creates
  exactly one span with the configured name, level, target, parent and fields (skipped arguments
  absent), the body - each poll of it, for async functions - runs inside that span and nothing else
  does, and ret/err events carry the returned value or error and are emitted inside the span.

Model: Core/Instrument.lean over facts extracted from tracing-attributes/src/expand.rs on every
run; the behaviour-preservation clause is judged on a generated, compiled corpus of twin functions.
-/
import TracingModel.Core.Instrument

namespace C17
open TM.Instrument TM.Gen.InstrumentFacts

/-- the values the regenerated `Gen/InstrumentFacts.lean` has now: a change of expand.rs that alters one of them fails here first -/
theorem code_facts :
    overrideSingleSegment = true ∧ skipFilter = true ∧ paramsThenCustom = true ∧ valueForm = true ∧ debugForm = true ∧
    errDefaultDisplay = true ∧ retDefaultDebug = true ∧ errLevelDefaultError = true ∧ retLevelDefaultSpan = true ∧
    syncSpanThenGuard = true ∧ asyncInstrumented = true ∧
    typesForValue = ["bool", "str", "u8", "i8", "u16", "i16", "u32", "i32", "u64", "i64", "u128", "i128", "f32", "f64", "usize", "isize",
      "String", "NonZeroU8", "NonZeroI8", "NonZeroU16", "NonZeroI16", "NonZeroU32", "NonZeroI32", "NonZeroU64", "NonZeroI64",
      "NonZeroU128", "NonZeroI128", "NonZeroUsize", "NonZeroIsize", "Wrapping"] :=
  ⟨rfl, rfl, rfl, rfl, rfl, rfl, rfl, rfl, rfl, rfl, rfl, rfl⟩

/-- **C17.attr_parse_facts** — likewise for attr.rs: the attribute's arguments are stored as parsed (the meaning of `ret` /
`err` does not depend on what was written before them: their default level is taken at expansion time, from the complete
argument set), an event's level defaults to the given default, the span's to INFO -/
theorem attr_parse_facts : argsStoredAsParsed = true ∧ levelDefaulting = true := ⟨rfl, rfl⟩

/-- **C17.fields_spec** — for ANY parameter list, skip list and custom fields: the span's fields are the
parameters that are neither skipped nor named by a custom field, in declaration order (through `Value` if
the type is in the table, else through Debug), followed by the custom fields in their order -/
theorem fields_spec (a : Attr) (ps : List Param) (customs : List Custom) :
    spanFields a ps customs =
      (ps.filter (fun p => !a.skips.contains p.name && !customs.any (fun c => c.name == p.name))).map
        (fun p => if typesForValue.contains p.tyname then s!"{p.name}={p.valRender}" else s!"{p.name}=debug:{p.dbgHex}") ++
      customs.map (fun c => s!"{c.name}={c.render}") := by
  obtain ⟨hOverrideSingleSegment, hSkipFilter, -, hValueForm, -⟩ := code_facts
  simp only [spanFields, overridden, hOverrideSingleSegment, hSkipFilter, Bool.true_and]
  congr 1
  apply List.map_congr_left
  intro p _
  simp [renderParam, hValueForm]

/-- a skipped argument never appears among the span's automatic fields -/
theorem skipped_absent (a : Attr) (ps : List Param) (customs : List Custom) (p : Param) (hs : a.skips.contains p.name = true) :
    p ∉ ps.filter (fun p => !(skipFilter && a.skips.contains p.name) && !overridden customs p) := by
  intro h
  obtain ⟨-, hSkipFilter, -⟩ := code_facts
  have := (List.mem_filter.mp h).2
  simp only [hSkipFilter, hs, Bool.and_self, Bool.not_true, Bool.false_and] at this
  cases this

def isNew : E → Bool | .new _ => true | _ => false
def isEv : E → Bool | .ev _ _ _ _ => true | _ => false
def isClose : E → Bool | .close => true | _ => false
def isEnter : E → Bool | .enter => true | _ => false
def isPoll : E → Bool | .poll => true | _ => false

theorem tail_all_ev (a : Attr) (o : Outcome) : (tailEvents a o).all isEv = true := by
  unfold tailEvents
  cases o with
  | panic => rfl
  | val d s => cases a.ret <;> rfl
  | ok d s => cases a.ret <;> cases a.err <;> rfl
  | err d s => cases a.err <;> cases a.ret <;> rfl

theorem countP_events (p : E → Bool) (hp : ∀ l t f x, p (.ev l t f x) = false) (l : List E) (h : l.all isEv = true) :
    l.countP p = 0 :=
  List.countP_eq_zero.2 fun e he => by
    have := List.all_eq_true.1 h e he
    cases e with
    | ev lv t f x => simp [hp]
    | _ => cases this

section
variable (p : E → Bool) (hp : ∀ l t f x, p (.ev l t f x) = false)
  (a : Attr) (ps : List Param) (customs : List Custom) (o : Outcome)
include hp

theorem countP_syncLog : (syncLog a ps customs o).countP p = [E.new (newLine a ps customs), .enter, .exit, .close].countP p := by
  simp [syncLog, List.countP_cons, bodyEvent, hp, countP_events p hp _ (tail_all_ev a o)]

/-- the first poll creates and enters the span, each later poll enters it, dropping the future enters it once more -/
theorem countP_asyncLog (yields : Nat) :
    (asyncLog a ps customs o yields).countP p =
      [E.poll, .new (newLine a ps customs), .enter, .exit, .enter, .exit, .close].countP p + yields * [E.poll, .enter, .exit].countP p := by
  have ht := countP_events p hp _ (tail_all_ev a o)
  cases yields with
  | zero => simp [asyncLog, List.countP_cons, bodyEvent, hp, ht]
  | succ n =>
    have hr : ((List.replicate n [E.poll, .enter, .exit]).flatten).countP p = n * [E.poll, .enter, .exit].countP p := by
      simp only [List.countP_flatten, List.map_replicate, List.sum_replicate_nat]
    -- both sides become sums of the same indicators `if p e then 1 else 0`, up to order
    simp only [asyncLog, Nat.add_one_ne_zero, bodyEvent, Nat.add_one_sub_one, List.countP_append, List.countP_cons, List.countP_nil,
      hp, hr, ht, Bool.false_eq_true, if_false, Nat.succ_mul]
    omega

end

theorem countP_replicate_polls (n : Nat) : ((List.replicate n [E.poll, E.enter, E.exit]).flatten).countP isNew = 0 := by
  simp [isNew]

/-- **C17.one_span** — every call (sync, or async with any number of pending points; any outcome incl. panic)
creates exactly ONE span, and it is the configured one -/
theorem one_span (a : Attr) (ps : List Param) (customs : List Custom) (o : Outcome) (yields : Nat) :
    (syncLog a ps customs o).countP isNew = 1 ∧ (asyncLog a ps customs o yields).countP isNew = 1 ∧
    E.new (newLine a ps customs) ∈ syncLog a ps customs o ∧ E.new (newLine a ps customs) ∈ asyncLog a ps customs o yields := by
  refine ⟨?_, ?_, by simp [syncLog], by unfold asyncLog; split <;> simp⟩
  · rw [countP_syncLog isNew (fun _ _ _ _ => rfl)]; rfl
  · rw [countP_asyncLog isNew (fun _ _ _ _ => rfl)]; rfl

/-- the span depth while the log is replayed: `none` if an event (body, ret, err) happens outside the span or an exit has no enter -/
def depthAfter : List E → Nat → Option Nat
  | [], d => some d
  | .enter :: rest, d => depthAfter rest (d + 1)
  | .exit :: rest, d => if d = 0 then none else depthAfter rest (d - 1)
  | .ev _ _ _ _ :: rest, d => if d = 0 then none else depthAfter rest d
  | _ :: rest, d => depthAfter rest d

theorem depth_append (l1 l2 : List E) (d : Nat) :
    depthAfter (l1 ++ l2) d = (depthAfter l1 d).bind (depthAfter l2) := by
  induction l1 generalizing d with
  | nil => rfl
  | cons x xs ih =>
    cases x with
    | exit | ev => simp only [List.cons_append, depthAfter, ih]; split <;> rfl
    | _ => simp only [List.cons_append, depthAfter, ih]

theorem depth_events (l : List E) (h : l.all isEv = true) (d : Nat) (hd : 0 < d) : depthAfter l d = some d := by
  induction l with
  | nil => rfl
  | cons x xs ih =>
    simp only [List.all_cons, Bool.and_eq_true] at h
    obtain ⟨hx, hxs⟩ := h
    cases x with
    | ev => simp only [depthAfter, if_neg (Nat.ne_of_gt hd), ih hxs]
    | _ => cases hx

theorem depth_polls (n : Nat) : depthAfter ((List.replicate n [E.poll, E.enter, E.exit]).flatten) 0 = some 0 := by
  induction n with
  | zero => rfl
  | succ k ih => simp [List.replicate_succ, depthAfter, ih]

/-- **C17.body_inside_span** — the body's events and the ret / err events all happen while the span is entered, every
enter has its exit (sync: one pair; async: one pair per poll plus the pair around the drop of the future) and the span
is exited at the end -/
theorem body_inside_span (a : Attr) (ps : List Param) (customs : List Custom) (o : Outcome) (yields : Nat) :
    depthAfter (syncLog a ps customs o) 0 = some 0 ∧ depthAfter (asyncLog a ps customs o yields) 0 = some 0 := by
  have ht := tail_all_ev a o
  constructor
  · simp [syncLog, depthAfter, bodyEvent, depth_append, depth_events _ ht 1 Nat.one_pos]
  · unfold asyncLog
    split
    · simp [depthAfter, bodyEvent, depth_append, depth_events _ ht 1 Nat.one_pos]
    · simp [depthAfter, bodyEvent, depth_append, depth_events _ ht 1 Nat.one_pos, depth_polls]

/-- **C17.closed_once_at_the_end** — every call (sync, or async with any number of pending points; any outcome incl. panic)
closes its span exactly once, and the close is the LAST thing the collector hears of the call: after the body, the ret / err
event and the final exit -/
theorem closed_once_at_the_end (a : Attr) (ps : List Param) (customs : List Custom) (o : Outcome) (yields : Nat) :
    (syncLog a ps customs o).countP isClose = 1 ∧ (syncLog a ps customs o).getLast? = some .close ∧
    (asyncLog a ps customs o yields).countP isClose = 1 ∧ (asyncLog a ps customs o yields).getLast? = some .close := by
  refine ⟨?_, ?_, ?_, ?_⟩
  · rw [countP_syncLog isClose (fun _ _ _ _ => rfl)]; rfl
  · rw [syncLog, List.getLast?_append]; rfl
  · rw [countP_asyncLog isClose (fun _ _ _ _ => rfl)]; rfl
  · unfold asyncLog
    split <;> (rw [List.getLast?_append]; rfl)

/-- **C17.entered_once_per_poll** — an async function polled `yields + 1` times is polled exactly that often and its span is
entered exactly once per poll plus once around the drop of the future (never held across a pending point); a sync function's
span is entered exactly once -/
theorem entered_once_per_poll (a : Attr) (ps : List Param) (customs : List Custom) (o : Outcome) (yields : Nat) :
    (syncLog a ps customs o).countP isEnter = 1 ∧
    (asyncLog a ps customs o yields).countP isPoll = yields + 1 ∧
    (asyncLog a ps customs o yields).countP isEnter = yields + 2 := by
  refine ⟨?_, ?_, ?_⟩
  · rw [countP_syncLog isEnter (fun _ _ _ _ => rfl)]; rfl
  · rw [countP_asyncLog isPoll (fun _ _ _ _ => rfl)]; show 1 + yields * 1 = yields + 1; omega
  · rw [countP_asyncLog isEnter (fun _ _ _ _ => rfl)]; show 2 + yields * 1 = yields + 2; omega

/-- **C17.at_most_one_tail_event** — a call adds at most one ret / err event to what the body itself emits, and a panic none -/
theorem at_most_one_tail_event (a : Attr) (o : Outcome) : (tailEvents a o).length ≤ 1 ∧ tailEvents a .panic = [] := by
  refine ⟨?_, rfl⟩
  unfold tailEvents
  cases o with
  | panic => exact Nat.zero_le _
  | val d s => cases a.ret <;> simp
  | ok d s => cases a.ret <;> cases a.err <;> simp
  | err d s => cases a.err <;> cases a.ret <;> simp

/-- **C17.ret_err_events** — which event the configured `ret` / `err` produce: `ret` shows the value (Debug by default),
`err` the error (Display by default, level ERROR by default); on a `Result` without `err` the whole Result is shown; a panic
produces neither -/
theorem ret_err_events (a : Attr) (r e : EventCfg) (d s : String) :
    tailEvents { a with ret := some r, err := some e } (.ok d s) = [.ev r.level a.target "return" (pick r.mode d s)] ∧
    tailEvents { a with ret := some r, err := some e } (.err d s) = [.ev e.level a.target "error" (pick e.mode d s)] ∧
    tailEvents { a with ret := some r, err := none } (.val d s) = [.ev r.level a.target "return" (pick r.mode d s)] ∧
    tailEvents { a with ret := none, err := some e } (.ok d s) = [] ∧
    tailEvents a .panic = [] :=
  ⟨rfl, rfl, rfl, rfl, rfl⟩

example :
    let a : Attr := { name := "66", level := 3, target := "74", modpath := "6d", skips := ["62"], parentRoot := false, ret := some ⟨.debug, 3⟩, err := none }
    let ps : List Param := [⟨"61", "u32", "u64:5", "35"⟩, ⟨"62", "Droppy", "-", "44"⟩, ⟨"63", "Vec", "-", "5b5d"⟩]
    spanFields a ps [⟨"6b", "u64:6"⟩] = ["61=u64:5", "63=debug:5b5d", "6b=u64:6"] ∧ (syncLog a ps [] (.val "36" "36")).length = 6 := by decide

end C17
