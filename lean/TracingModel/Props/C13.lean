/-
C13 — "fmt writes one complete record per event, to exactly the selected writers"

  For each event (and each configured span lifecycle point) that reaches the formatting layer, it
  asks the configured writer factory once, with that event's metadata, and hands the resulting
  writer the whole newline-terminated record in a single write (exactly one line for the full,
  compact and JSON formats), so records from concurrent threads never interleave; the record names
  the level, every span in scope in nesting order with its fields, and every event field with its
  value. Writer combinators (level bounds, predicates, tee, fallback) route each record to exactly
  the sinks their definition denotes.

Model: Core/Writers.lean — `mk` / `writes` / `emitRecord` INTERPRET the table extracted from
writer.rs and fmt_subscriber.rs on every run (Gen/WriterRouting.lean); `sel` is the denotation.
The text of a record (level, spans in order, fields) is judged on the implementation's output.
-/
import TracingModel.Core.Writers

namespace C13
open TM.Writers TM.Gen.WriterRouting

/-- the values the regenerated `Gen/WriterRouting.lean` has now: a change of writer.rs / fmt_subscriber.rs that alters one of them
fails here first -/
theorem table_facts :
    row "WithMaxLevel" "make_writer_for" = some ("le", [("make", "make_writer_for")]) ∧
    row "WithMinLevel" "make_writer_for" = some ("ge", [("make", "make_writer_for")]) ∧
    row "WithFilter" "make_writer_for" = some ("filter", [("make", "make_writer_for")]) ∧
    row "Tee" "make_writer_for" = some ("none", [("a", "make_writer_for"), ("b", "make_writer_for")]) ∧
    row "OrElse" "make_writer_for" = some ("match-either", [("inner", "make_writer_for"), ("or_else", "make_writer_for")]) ∧
    row "BoxMakeWriter" "make_writer_for" = some ("none", [("inner", "make_writer_for")]) ∧
    row "Boxed" "make_writer_for" = some ("none", [("0", "make_writer_for")]) ∧
    teeWritesBoth = true ∧ eitherWritesOne = true :=
  ⟨rfl, rfl, rfl, rfl, rfl, rfl, rfl, rfl, rfl⟩

theorem on_event_facts :
    onEventMakeWriterFor = 1 ∧ onEventMakeWriterPlain = 0 ∧ onEventWrites = 1 ∧ onEventMakeThenWrite = true ∧
    onEventClearsBefore = true := ⟨rfl, rfl, rfl, rfl, rfl⟩

theorem passOn_for (m : WMeta) : passOn "make_writer_for" (.some m) = some (.some m) := by
  simp [passOn]

/-- everything a write reaches was obtained with `make_writer_for(m)` — never with the metadata-less `make_writer()` -/
def AllFor (m : WMeta) (l : List (Nat × Ask)) : Prop := ∀ x ∈ l, x.2 = .withMeta m

theorem guarded_le (l : Nat) (inner : Option WMeta → W) (m : WMeta) :
    guarded "WithMaxLevel" (fun x => decide (x.level ≤ l)) (fun x => decide (l ≤ x.level)) (fun _ => false) inner (.some m)
      = if m.level ≤ l then .some (inner (.some m)) else .none := by
  have hrow : row "WithMaxLevel" "make_writer_for" = some ("le", [("make", "make_writer_for")]) := table_facts.1
  simp only [guarded, methName, hrow, passOn_for]
  simp

theorem guarded_ge (l : Nat) (inner : Option WMeta → W) (m : WMeta) :
    guarded "WithMinLevel" (fun x => decide (x.level ≤ l)) (fun x => decide (l ≤ x.level)) (fun _ => false) inner (.some m)
      = if l ≤ m.level then .some (inner (.some m)) else .none := by
  have hrow : row "WithMinLevel" "make_writer_for" = some ("ge", [("make", "make_writer_for")]) := table_facts.2.1
  simp only [guarded, methName, hrow, passOn_for]
  simp

theorem guarded_filter (p : Pred) (inner : Option WMeta → W) (m : WMeta) :
    guarded "WithFilter" (fun _ => false) (fun _ => false) p.eval inner (.some m)
      = if p.eval m then .some (inner (.some m)) else .none := by
  have hrow : row "WithFilter" "make_writer_for" = some ("filter", [("make", "make_writer_for")]) := table_facts.2.2.1
  simp only [guarded, methName, hrow, passOn_for]
  simp

/-- a `write_all` on `w` reaches exactly the sinks `l`, in order, each asked with `make_writer_for(m)` -/
def Denotes (m : WMeta) (w : W) (l : List Nat) : Prop :=
  w.isBad = false ∧ writes w = l.map (·, .withMeta m)

namespace Denotes
variable {m : WMeta} {a b : W} {la lb : List Nat}

theorem none : Denotes m .none [] := ⟨rfl, rfl⟩

theorem tee (ha : Denotes m a la) (hb : Denotes m b lb) : Denotes m (.tee a b) (la ++ lb) := by
  obtain ⟨-, -, -, -, -, -, -, hTeeWritesBoth, -⟩ := table_facts
  exact ⟨by simp [W.isBad, ha.1, hb.1], by simp [writes, hTeeWritesBoth, ha.2, hb.2]⟩

/-- `OptionalWriter::some(a)` seen through `or_else` -/
theorem left (ha : Denotes m (.some a) la) : Denotes m (.left a) la := by
  obtain ⟨-, -, -, -, -, -, -, -, hEitherWritesOne⟩ := table_facts
  simpa only [Denotes, writes, hEitherWritesOne, if_true, W.isBad] using ha

theorem right (hb : Denotes m b lb) : Denotes m (.right b) lb := by
  obtain ⟨-, -, -, -, -, -, -, -, hEitherWritesOne⟩ := table_facts
  simpa only [Denotes, writes, hEitherWritesOne, if_true, W.isBad] using hb

theorem guard {c : Prop} [Decidable c] (ha : Denotes m a la) :
    Denotes m (if c then .some a else .none) (if c then la else []) := by
  split
  · exact ha
  · exact none

theorem orElse {c : Prop} [Decidable c] (ha : Denotes m (if c then .some a else .none) (if c then la else []))
    (hb : Denotes m b lb) :
    Denotes m (match (if c then W.some a else .none) with | .some w => .left w | .none => .right b | _ => .bad)
      (if c then la else lb) := by
  by_cases h : c <;> simp only [h, if_true, if_false] at ha ⊢
  · exact left ha
  · exact right hb

end Denotes

theorem mk_denotes (e : WExpr) (hwf : WF e = true) (m : WMeta) : Denotes m (mk e (.some m)) (sel e m) := by
  obtain ⟨-, -, -, rowTee, rowOrElse, rowBox, rowBoxed, -, -⟩ := table_facts
  induction e with
  | sink k => exact ⟨rfl, rfl⟩
  | boxed e ih =>
    simpa [mk, methName, rowBox, rowBoxed, passOn_for, sel] using ih hwf
  | maxLevel l e ih | minLevel l e ih | filter p e ih =>
    simpa only [mk, guarded_le, guarded_ge, guarded_filter, sel] using (ih hwf).guard
  | tee a b iha ihb =>
    simp only [WF, Bool.and_eq_true] at hwf
    simpa only [mk, methName, rowTee, passOn_for, sel] using (iha hwf.1).tee (ihb hwf.2)
  | orElse a b iha ihb =>
    cases a with
    | maxLevel l e | minLevel l e | filter p e =>
      -- the induction hypothesis for the guard `a` is the premise of `Denotes.orElse`
      simp only [WF, Bool.and_eq_true] at hwf
      have ha := iha hwf.1
      simp only [mk, guarded_le, guarded_ge, guarded_filter, sel] at ha
      simp only [mk, methName, rowOrElse, passOn_for, guarded_le, guarded_ge, guarded_filter, sel]
      exact ha.orElse (ihb hwf.2)
    | _ => simp [WF] at hwf

theorem allFor_map (m : WMeta) (l : List Nat) : (l.map (·, Ask.withMeta m)).map (·.1) = l ∧ AllFor m (l.map (·, .withMeta m)) :=
  ⟨by rw [List.map_map]; exact List.map_id l, fun x hx => by obtain ⟨_, _, rfl⟩ := List.mem_map.1 hx; rfl⟩

/-- **C13.routes_denote** — for EVERY writer expression (any depth) and every metadata: the writer
that `make_writer_for(meta)` returns is well formed, a `write_all` on it reaches exactly the sinks
the expression denotes (each once, in tee order), and every one of those sinks was asked with
`make_writer_for(meta)` all the way down -/
theorem routes_denote (e : WExpr) (hwf : WF e = true) (m : WMeta) :
    (mk e (.some m)).isBad = false ∧
    (writes (mk e (.some m))).map (·.1) = sel e m ∧ AllFor m (writes (mk e (.some m))) := by
  have h := mk_denotes e hwf m
  rw [h.2]
  exact ⟨h.1, allFor_map m _⟩

/-- fmt's `on_event` is one `make_writer_for` and one `write_all` on what it returns -/
theorem emitRecord_eq_writes (e : WExpr) (m : WMeta) : emitRecord e m = writes (mk e (.some m)) := by
  obtain ⟨hOnEventMakeWriterFor, hOnEventMakeWriterPlain, hOnEventWrites, hOnEventMakeThenWrite, -⟩ := on_event_facts
  simp only [emitRecord, hOnEventMakeWriterFor, hOnEventMakeWriterPlain, hOnEventWrites, hOnEventMakeThenWrite,
    beq_self_eq_true, Bool.and_self, if_true, List.replicate, List.flatten_cons, List.flatten_nil, List.append_nil]

theorem emitRecord_eq (e : WExpr) (hwf : WF e = true) (m : WMeta) : emitRecord e m = (sel e m).map (·, .withMeta m) := by
  rw [emitRecord_eq_writes, (mk_denotes e hwf m).2]

/-- **C13.one_write_per_record** — for every record that formats successfully fmt asks the maker
exactly once, with the record's metadata, and writes the whole buffer exactly once: every selected
sink receives ONE write (the complete record), every other sink none -/
theorem one_write_per_record (e : WExpr) (hwf : WF e = true) (m : WMeta) :
    (emitRecord e m).map (·.1) = sel e m ∧ AllFor m (emitRecord e m) := by
  rw [emitRecord_eq e hwf m]
  exact allFor_map m _

def sinks : WExpr → List Nat
  | .sink k => [k]
  | .maxLevel _ e => sinks e
  | .minLevel _ e => sinks e
  | .filter _ e => sinks e
  | .tee a b => sinks a ++ sinks b
  | .orElse a b => sinks a ++ sinks b
  | .boxed e => sinks e

theorem sel_orElse_cases (a b : WExpr) (m : WMeta) :
    sel (.orElse a b) m = [] ∨ sel (.orElse a b) m = sel a m ∨ sel (.orElse a b) m = sel b m := by
  cases a with
  | maxLevel | minLevel | filter => simp only [sel]; split <;> simp
  | _ => exact .inl rfl

theorem sel_sublist (e : WExpr) (m : WMeta) : (sel e m).Sublist (sinks e) := by
  induction e with
  | sink k => exact .refl _
  | boxed e ih => exact ih
  | maxLevel l e ih | minLevel l e ih | filter p e ih =>
    simp only [sel, sinks]
    split
    · exact ih
    · exact List.nil_sublist _
  | tee a b iha ihb => exact iha.append ihb
  | orElse a b iha ihb =>
    rcases sel_orElse_cases a b m with h | h | h <;> rw [h]
    · exact List.nil_sublist _
    · exact iha.trans (List.sublist_append_left _ _)
    · exact ihb.trans (List.sublist_append_right _ _)

/-- **C13.no_duplicate_delivery** — an expression that names each sink once never writes a record to a sink twice -/
theorem no_duplicate_delivery (e : WExpr) (hwf : WF e = true) (hd : (sinks e).Nodup) (m : WMeta) :
    ((emitRecord e m).map (·.1)).Nodup := by
  rw [(one_write_per_record e hwf m).1]
  exact (sel_sublist e m).nodup hd

/-- the value the regenerated `Gen/WriterRouting.lean` has for what fmt_subscriber.rs does when the thread's buffer is busy:
it formats into a fresh one (`nested_record_not_lost` rests on it) -/
theorem busy_buffer_fact : onEventBusyBufferFallsBack = true := rfl

/-- **C13.nested_record_not_lost** — an event that reaches the formatting layer while the same thread is formatting another one
(a value whose Debug / Display emits through the dispatcher) still gets its own complete record, asked for with ITS metadata and
written to exactly the sinks the expression denotes for it, before the outer record, which is unaffected -/
theorem nested_record_not_lost (e : WExpr) (hwf : WF e = true) (inner outer : WMeta) :
    (emitNested e inner outer).map (·.1) = sel e inner ++ sel e outer ∧
    emitNested e inner outer = emitRecord e inner ++ emitRecord e outer := by
  simp only [emitNested, busy_buffer_fact, if_true, List.map_append, (one_write_per_record e hwf inner).1,
    (one_write_per_record e hwf outer).1, and_self]

/-- fmt handles a history of records one after the other -/
def emitAll (e : WExpr) (ms : List WMeta) : List (Nat × Ask) := ms.flatMap (emitRecord e)

/-- **C13.history_routes** — over a history of ANY length the sequence of sinks written is the
concatenation, in the order of the records, of what the expression denotes for each record: no
record is lost, none is written out of order, none reaches a sink its definition does not name -/
theorem history_routes (e : WExpr) (hwf : WF e = true) (ms : List WMeta) :
    (emitAll e ms).map (·.1) = ms.flatMap (sel e) := by
  simp only [emitAll, List.map_flatMap, (one_write_per_record e hwf _).1]

/-- **C13.history_exact_per_sink** — with each sink named once, the number of writes a sink receives
over a history equals the number of records that select it: exactly one write per selected record,
for every history and every sink -/
theorem history_exact_per_sink (e : WExpr) (hwf : WF e = true) (hd : (sinks e).Nodup)
    (ms : List WMeta) (k : Nat) :
    ((emitAll e ms).map (·.1)).count k = (ms.filter (fun m => decide (k ∈ sel e m))).length := by
  rw [history_routes e hwf ms]
  induction ms with
  | nil => rfl
  | cons m ms ih =>
    simp only [List.flatMap_cons, List.count_append, ih, List.filter_cons, ((sel_sublist e m).nodup hd).count]
    by_cases h : k ∈ sel e m <;> simp [h, Nat.add_comm]

/-- **C13.history_silent_sink** — a sink that no record of the history selects is never written -/
theorem history_silent_sink (e : WExpr) (hwf : WF e = true) (ms : List WMeta) (k : Nat)
    (hk : ∀ m ∈ ms, k ∉ sel e m) : k ∉ (emitAll e ms).map (·.1) := by
  rw [history_routes e hwf ms]
  simp only [List.mem_flatMap, not_exists, not_and]
  exact hk

example :
    let e : WExpr := .tee (.orElse (.maxLevel 2 (.sink 1)) (.filter (.targetIs 0) (.sink 2))) (.boxed (.minLevel 4 (.sink 3)))
    WF e = true ∧ (emitRecord e ⟨1, 0⟩).map (·.1) = [1] ∧ (emitRecord e ⟨3, 0⟩).map (·.1) = [2] ∧
    (emitRecord e ⟨5, 1⟩).map (·.1) = [3] ∧ (emitRecord e ⟨3, 1⟩).map (·.1) = [] := by decide

example :
    let e : WExpr := .tee (.orElse (.maxLevel 2 (.sink 1)) (.filter (.targetIs 0) (.sink 2))) (.boxed (.minLevel 4 (.sink 3)))
    (sinks e).Nodup ∧ (emitAll e [⟨1, 0⟩, ⟨3, 0⟩, ⟨5, 1⟩, ⟨3, 1⟩, ⟨1, 1⟩]).map (·.1) = [1, 2, 3, 1] := by decide

end C13
