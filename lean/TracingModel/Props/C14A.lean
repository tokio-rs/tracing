/-
C14, records on one span from several threads — "later record calls on a span are reflected in the span object of records
emitted afterwards": every field recorded by a Span::record call that has returned is in the span's stored fields, whatever
other threads record on the same span at the same time.

Model: Core/AtomicMerge.lean (one step = one critical section of on_record; any number of threads, any schedule); whether the
merge happens under the extensions write lock is extracted from fmt_subscriber.rs on every run.
-/
import TracingModel.Props.C14J
import TracingModel.Core.AtomicMerge

namespace C14
open TM.AtomicMerge TM.Gen.AtomicCounts

/-- **C14.record_merge_code_fact** — fmt::Subscriber::on_record takes `span.extensions_mut()` first and merges the new values
into the stored `FormattedFields` in place, under that lock (re-extracted from fmt_subscriber.rs on every run) -/
theorem record_merge_code_fact : recordMergesUnderLock = true := rfl

/-- with the merge under the lock no thread ever holds a copy: each is still to record, or has recorded and its field is stored -/
structure MInv (given : List Nat) (s : S) : Prop where
  keeps : ∀ f ∈ given, f ∈ s.fields
  pcs : ∀ t, s.pc t = .todo ∨ s.pc t = .done ∧ t ∈ s.fields

theorem MInv.step {given : List Nat} {s : S} (h : MInv given s) (t : Nat) : MInv given (TM.AtomicMerge.step true s t) := by
  unfold TM.AtomicMerge.step
  rcases h.pcs t with hp | ⟨hp, _⟩ <;> rw [hp]
  · refine ⟨fun f hf => List.mem_cons_of_mem _ (h.keeps f hf), fun x => ?_⟩
    show (if x = t then PC.done else s.pc x) = .todo ∨ (if x = t then PC.done else s.pc x) = .done ∧ x ∈ t :: s.fields
    split
    · exact Or.inr ⟨rfl, ‹x = t› ▸ List.mem_cons_self⟩
    · exact (h.pcs x).imp_right (And.imp_right (List.mem_cons_of_mem _))
  · exact h

theorem MInv.init (given : List Nat) : MInv given (start given) where
  keeps := fun _ hf => hf
  pcs := fun _ => Or.inl rfl

theorem MInv.run {given : List Nat} {s : S} (h : MInv given s) (sched : List Nat) : MInv given (TM.AtomicMerge.run true s sched) :=
  List.foldlRecOn sched _ h fun _ h' t _ => h'.step t

/-- **C14.no_recorded_field_lost** — any threads recording on one span, every interleaving of on_record's critical sections as
the code performs them: the stored fields contain every field given at creation and the field of every record call that has
finished -/
theorem no_recorded_field_lost (given : List Nat) (sched : List Nat) :
    let s := run recordMergesUnderLock (start given) sched
    (∀ f ∈ given, f ∈ s.fields) ∧ ∀ t, s.pc t = .done → t ∈ s.fields := by
  rw [record_merge_code_fact]
  have h := (MInv.init given).run sched
  refine ⟨h.keeps, fun t ht => ?_⟩
  rcases h.pcs t with e | ⟨_, hm⟩
  · rw [e] at ht; cases ht
  · exact hm

/-- **C14.lost_record_witness** — it depends on the merge happening under the lock: with copy / merge / write-back, of two
overlapping record calls the first one's field is gone although both calls have returned -/
theorem lost_record_witness :
    let s := run false (start [1000]) [0, 1, 0, 1]
    s.pc 0 = .done ∧ s.pc 1 = .done ∧ s.fields = [1, 1000] := by decide

example : (run recordMergesUnderLock (start [1000]) [1, 0, 1]).fields = [0, 1, 1000] := by decide

end C14
