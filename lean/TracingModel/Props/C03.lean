/-
C03 — "Span handles drive their collector through a well-formed, balanced protocol"

  For any program that creates, clones, enters, exits, records on, sends across threads and drops
  Span handles (directly, via guards, in_scope, or by instrumenting a future), the collector that
  created a span sees exactly one creation, one clone notification per additional handle, exactly
  one close notification per dropped handle, and every enter matched by one exit on the same
  thread; all of these go to the creating collector regardless of the current default, nothing
  arrives after the last handle's close notification, and a disabled span causes no collector
  calls at all.

Model: Core/SpanHandle.lean (hand-written from tracing/src/span.rs, instrument.rs).

The two counting clauses (handles here, enters in C03E) are one conservation law: weigh every
owner by its kind and span (`Weight`), and every collector call by what it tells the collector
about owners (`cw`); no operation changes the difference of the two totals (proved in C03S from
the one analysis of `step`, `step_acts`).
-/
import TracingModel.Core.SpanHandle

namespace C03
open TM.SpanHandle

/-- contribution of one collector call to the handle balance of span `r` -/
def nc (r : Ref) : Call → Int
  | .new c id => if (c, id) = r then 1 else 0
  | .clone c id => if (c, id) = r then 1 else 0
  | .close c id => if (c, id) = r then -1 else 0
  | _ => 0

/-- `#new + #clone_span − #try_close` for span `r` in a call log -/
def bal (r : Ref) (log : List Call) : Int := (log.map (nc r)).sum

def holds (r : Ref) (o : Owner) : Int := if o.ref = some r then 1 else 0

/-- number of live owners (handles, entered guards, instrumented futures) of span `r` -/
def own (r : Ref) (l : List Owner) : Int := (l.map (holds r)).sum

def enterCalls (r : Option Ref) (t : Tid) : List Call := match r with | some (c, id) => [.enter c id t] | none => []
def exitCalls (r : Option Ref) (t : Tid) : List Call := match r with | some (c, id) => [.exit c id t] | none => []
def closeCalls (r : Option Ref) : List Call := match r with | some (c, id) => [.close c id] | none => []

theorem doEnter_log (s : PState) (r : Option Ref) (t : Tid) : (doEnter s r t).log = s.log ++ enterCalls r t := by
  cases r with
  | none => simp [doEnter, enterCalls]
  | some p => rfl

theorem doExit_log (s : PState) (r : Option Ref) (t : Tid) : (doExit s r t).log = s.log ++ exitCalls r t := by
  cases r with
  | none => simp [doExit, exitCalls]
  | some p => rfl

theorem doClose_log (s : PState) (r : Option Ref) : (doClose s r).log = s.log ++ closeCalls r := by
  cases r with
  | none => simp [doClose, closeCalls]
  | some p => rfl

theorem doEnter_owners (s : PState) (r : Option Ref) (t : Tid) : (doEnter s r t).owners = s.owners := by
  cases r <;> rfl

theorem doExit_owners (s : PState) (r : Option Ref) (t : Tid) : (doExit s r t).owners = s.owners := by
  cases r <;> rfl

theorem doClose_owners (s : PState) (r : Option Ref) : (doClose s r).owners = s.owners := by
  cases r <;> rfl

theorem take_cases {k : Key} {l : List Owner} {o : Owner} {rest : List Owner} (h : take k l = some (o, rest)) :
    ∃ a b, l = a ++ o :: b ∧ rest = a ++ b := by
  induction l generalizing o rest with
  | nil => simp [take] at h
  | cons x xs ih =>
    simp only [take] at h
    split at h
    · cases h; exact ⟨[], _, rfl, rfl⟩
    · split at h
      · next y rest' ht => cases h; obtain ⟨a, b, rfl, rfl⟩ := ih ht; exact ⟨x :: a, b, rfl, rfl⟩
      · cases h

theorem mem_of_take {k : Key} {l : List Owner} {o : Owner} {rest : List Owner} (h : take k l = some (o, rest)) : o ∈ l := by
  obtain ⟨a, b, rfl, -⟩ := take_cases h; simp

theorem mem_of_find {k : Key} {l : List Owner} {o : Owner} (h : find k l = some o) : o ∈ l :=
  List.mem_of_find?_eq_some h

/-- the weightings of owners under which no operation changes "told to the collectors minus held by the owners"
(`Acts.conserves`, C03S) -/
structure Weight (w : OwnerKind → Option Ref → Int) : Prop where
  none : ∀ k, w k none = 0
  future : ∀ r, w .future r = w .handle r

/-- what a collector call says about owners: `new_span` / `clone_span` one more handle,
`try_close` one fewer, `enter` a handle become a guard of that thread, `exit` the reverse -/
def cw (w : OwnerKind → Option Ref → Int) : Call → Int
  | .new c id => w .handle (some (c, id))
  | .clone c id => w .handle (some (c, id))
  | .close c id => - w .handle (some (c, id))
  | .enter c id t => w (.guard t) (some (c, id)) - w .handle (some (c, id))
  | .exit c id t => w .handle (some (c, id)) - w (.guard t) (some (c, id))
  | _ => 0

def lsum (w : OwnerKind → Option Ref → Int) (log : List Call) : Int := (log.map (cw w)).sum
def osum (w : OwnerKind → Option Ref → Int) (l : List Owner) : Int := (l.map fun o => w o.kind o.ref).sum

section
variable {w : OwnerKind → Option Ref → Int}

theorem lsum_append (a b : List Call) : lsum w (a ++ b) = lsum w a + lsum w b := by
  simp [lsum, List.sum_append]

theorem lsum_one (c : Call) : lsum w [c] = cw w c := by simp [lsum]

theorem osum_cons (o : Owner) (l : List Owner) : osum w (o :: l) = w o.kind o.ref + osum w l := by
  simp [osum]

theorem take_osum {k : Key} {l : List Owner} {o : Owner} {rest : List Owner} (h : take k l = some (o, rest)) :
    osum w l = w o.kind o.ref + osum w rest := by
  obtain ⟨a, b, rfl, rfl⟩ := take_cases h
  simp only [osum, List.map_append, List.map_cons, List.sum_append, List.sum_cons]; omega

theorem lsum_enterCalls (hw : Weight w) (r : Option Ref) (t : Tid) :
    lsum w (enterCalls r t) = w (.guard t) r - w .handle r := by
  cases r <;> simp [enterCalls, lsum, cw, hw.none]

theorem lsum_exitCalls (hw : Weight w) (r : Option Ref) (t : Tid) :
    lsum w (exitCalls r t) = w .handle r - w (.guard t) r := by
  cases r <;> simp [exitCalls, lsum, cw, hw.none]

theorem lsum_closeCalls (hw : Weight w) (r : Option Ref) : lsum w (closeCalls r) = - w .handle r := by
  cases r <;> simp [closeCalls, lsum, cw, hw.none]

theorem osum_nonneg (h : ∀ k r, 0 ≤ w k r) (l : List Owner) : 0 ≤ osum w l := by
  induction l with
  | nil => exact Int.le_refl 0
  | cons o l ih => rw [osum_cons]; have := h o.kind o.ref; omega

theorem le_osum_of_mem (h : ∀ k r, 0 ≤ w k r) {o : Owner} {l : List Owner} (hm : o ∈ l) : w o.kind o.ref ≤ osum w l := by
  obtain ⟨a, b, rfl⟩ := List.append_of_mem hm
  have := osum_nonneg h a; have := osum_nonneg h b
  simp only [osum, List.map_append, List.map_cons, List.sum_append, List.sum_cons] at *; omega

theorem osum_le {w' : OwnerKind → Option Ref → Int} (h : ∀ k r, w k r ≤ w' k r) (l : List Owner) : osum w l ≤ osum w' l := by
  induction l with
  | nil => exact Int.le_refl 0
  | cons o l ih => rw [osum_cons, osum_cons]; have := h o.kind o.ref; omega

end

def wRC (q : Ref) : OwnerKind → Option Ref → Int := fun _ r => if r = some q then 1 else 0

theorem weight_rc (q : Ref) : Weight (wRC q) := ⟨fun _ => by simp [wRC], fun _ => rfl⟩

theorem bal_eq (q : Ref) : bal q = lsum (wRC q) := by
  have : nc q = cw (wRC q) := by
    funext c
    cases c with
    | close c id => simp only [nc, cw, wRC, Option.some.injEq]; split <;> rfl
    | _ => simp [nc, cw, wRC]
  funext l; rw [bal, lsum, this]

theorem own_eq (q : Ref) : own q = osum (wRC q) := rfl

theorem bal_append (r : Ref) (log : List Call) (c : Call) : bal r (log ++ [c]) = bal r log + nc r c := by
  simp [bal, List.sum_append]

theorem own_cons (r : Ref) (o : Owner) (l : List Owner) : own r (o :: l) = holds r o + own r l :=
  osum_cons (w := wRC r) o l

theorem take_own (r : Ref) {k : Key} {l : List Owner} {o : Owner} {rest : List Owner}
    (h : take k l = some (o, rest)) : own r l = holds r o + own r rest :=
  take_osum (w := wRC r) h

theorem wRC_nonneg (q : Ref) (k : OwnerKind) (r : Option Ref) : 0 ≤ wRC q k r := by
  unfold wRC; split <;> omega

theorem own_pos_of_mem {q : Ref} {o : Owner} {l : List Owner} (hm : o ∈ l) (hq : o.ref = some q) : 1 ≤ own q l := by
  have := le_osum_of_mem (wRC_nonneg q) hm
  rw [own_eq]; simpa [wRC, hq] using this

theorem doEnter_bal (q : Ref) (s : PState) (r : Option Ref) (t : Tid) : bal q (doEnter s r t).log = bal q s.log := by
  rw [bal_eq, doEnter_log, lsum_append, lsum_enterCalls (weight_rc q)]; simp [wRC]

theorem doExit_bal (q : Ref) (s : PState) (r : Option Ref) (t : Tid) : bal q (doExit s r t).log = bal q s.log := by
  rw [bal_eq, doExit_log, lsum_append, lsum_exitCalls (weight_rc q)]; simp [wRC]

/-- the reference-count invariant: for every span, creations + clones − closes seen by the
collector equals the number of owners the program holds -/
def RC (s : PState) : Prop := ∀ r : Ref, bal r s.log = own r s.owners

theorem RC.init (acc : Cid → Nat → Bool) : RC (PState.init acc) := by intro r; rfl

/-- **C03.disabled_silent** — operations on a disabled span (no collector enabled it) cause no
collector call at all: drop, enter, guard drop, in_scope, clone, record, instrument, poll, future drop -/
theorem disabled_silent (s : PState) (k : Key) (o : Owner) (rest : List Owner) (t : Tid) (g : Key)
    (ht : take k s.owners = some (o, rest)) (hf : find k s.owners = some o) (hr : o.ref = none) :
    (step s (.drop k)).log = s.log ∧ (step s (.enter t k g)).log = s.log ∧
    (step s (.dropGuard k)).log = s.log ∧ (step s (.inScope t k)).log = s.log ∧
    (step s (.clone k g)).log = s.log ∧ (step s (.record k)).log = s.log ∧
    (step s (.instrument k g)).log = s.log ∧ (step s (.poll t k)).log = s.log ∧
    (step s (.dropFuture t k)).log = s.log := by
  refine ⟨?_, ?_, ?_, ?_, ?_, ?_, ?_, ?_, ?_⟩
  · simp only [step, dropHandle, ht, hr]; split <;> rfl
  · simp only [step, ht, hr]; split <;> rfl
  · simp only [step, ht, hr]; split <;> rfl
  · simp only [step, hf, hr]; split <;> rfl
  · simp only [step, hf, hr]; cases o.kind <;> rfl
  · simp only [step, hf, hr]; cases o.kind <;> rfl
  · simp only [step, ht]; split <;> rfl
  · simp only [step, hf, hr]; split <;> rfl
  · simp only [step, ht, hr]; split <;> rfl

/-- **C03.own_collector** — the calls caused by dropping, entering, exiting, polling or dropping an
owner are addressed to the collector stored IN the handle (the one that created the span) and are a
function of that handle alone: they are the same whatever the acting thread's default collector
is (the default does not occur in these steps) -/
theorem own_collector (s : PState) (k g : Key) (t t' : Tid) (d : Option Cid) :
    (step { s with dflt := update s.dflt t' d } (.drop k)).log = (step s (.drop k)).log ∧
    (step { s with dflt := update s.dflt t' d } (.enter t k g)).log = (step s (.enter t k g)).log ∧
    (step { s with dflt := update s.dflt t' d } (.dropGuard k)).log = (step s (.dropGuard k)).log ∧
    (step { s with dflt := update s.dflt t' d } (.poll t k)).log = (step s (.poll t k)).log ∧
    (step { s with dflt := update s.dflt t' d } (.dropFuture t k)).log = (step s (.dropFuture t k)).log := by
  refine ⟨?_, ?_, ?_, ?_, ?_⟩
  -- each of the five looks its owner up in `s.owners` and calls through the owner's own `ref`: `dflt` is not read
  all_goals
    simp only [step, dropHandle]
    split
    · split <;> simp only [doClose_log, doEnter_log, doExit_log]
    · rfl

/-- non-vacuity: a program that uses a foreign default, a guard dropped after the default has changed, and a future
polled on another thread -/
example :
    let s := run (PState.init (fun c l => if c == 2 then l ≤ 3 else true))
      [.setDefault 0 (some 1), .newSpan 0 0 3, .clone 0 3, .enter 0 0 1, .setDefault 0 (some 2), .current 0 6,
       .newSpan 0 9 3, .instrument 9 2, .poll 1 2, .dropGuard 1, .dropFuture 0 2, .drop 3]
    bal (1, 1) s.log = 0 ∧ bal (2, 1) s.log = 0 ∧ s.log.length ≥ 10 := by decide

/-- **C03.future_drop_releases_inner** — dropping an `Instrumented` future whose inner future owns a
span handle releases that handle exactly once — one `try_close` to the inner handle's OWN collector —
whether or not the instrumenting span is enabled (a disabled outer span contributes no call at all,
but the inner drop still happens); with an enabled outer span it happens inside that span's
enter/exit pair, and the outer handle's close comes last. -/
theorem future_drop_releases_inner (s : PState) (t : Tid) (f k : Key) (o oi : Owner) (rest resti : List Owner)
    (ht : take f s.owners = some (o, rest)) (hf : o.kind = .future)
    (hti : take k rest = some (oi, resti)) (hi : oi.kind = .handle) :
    (step s (.dropFutureHolding t f k)).log =
      s.log ++ enterCalls o.ref t ++ closeCalls oi.ref ++ exitCalls o.ref t ++ closeCalls o.ref := by
  simp only [step, ht, hf, if_true, doClose_log, doExit_log, dropHandle, doEnter_owners, hti, hi, doEnter_log]

/-- non-vacuity: a disabled outer span (collector 2 rejects rank 4) around an inner future that owns an
enabled handle: the inner close is there, nothing else is -/
example :
    let s0 := run (PState.init (fun c l => if c == 2 then l ≤ 3 else true))
      [.setDefault 0 (some 2), .newSpan 0 0 4, .setDefault 0 (some 1), .newSpan 0 3 3, .instrument 0 2]
    (step s0 (.dropFutureHolding 0 2 3)).log = s0.log ++ [.close 1 1] := by decide

end C03
