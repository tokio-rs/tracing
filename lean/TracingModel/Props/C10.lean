/-
C10 — "Macros record each field once, typed, in order; disabled ones evaluate nothing"

  For every span and event macro form, each field is presented to the collector's visitor exactly
  once, under its declared name, in declaration order (a format-string message first), through the
  visitor method for its type and with exactly the supplied value (the display and debug sigils
  present the value's Display/Debug text); empty and unset fields are not visited and recording an
  undeclared field is ignored. Field and message expressions are evaluated exactly once when the
  callsite is enabled and not at all when it is disabled by any of the filtering stages.

Model: Core/Macros.lean over the table `Gen.ValueTable` extracted from tracing-core/src/field.rs
on every run; compared with a corpus of macro invocations generated and COMPILED on every run.
-/
import TracingModel.Core.Macros

namespace C10
open TM.Macros TM.Gen.ValueTable

/-- the values the regenerated `Gen/ValueTable.lean` has now: a change of field.rs that alters one of them fails here first -/
theorem table_facts :
    normalArmPassesValue = true ∧ nonzeroArmPassesGet = true ∧ castArmIsAs = true ∧
    noNonZeroFor = ["f32", "f64", "bool"] ∧ displayValueDebugIsDisplay = true ∧
    hand = [("str", "record_str"), ("bytes", "record_bytes"), ("String", "record_str"), ("Arguments", "record_debug"),
            ("Error", "record_error"), ("DisplayValue", "record_debug"), ("DebugValue", "record_debug"), ("Empty", "none"),
            ("Wrapping", "delegate"), ("Ref", "delegate"), ("Box", "delegate")] ∧
    prim.map (fun r => (r.1, r.2.1)) =
      [("u64", "record_u64"), ("usize", "record_u64"), ("u32", "record_u64"), ("u16", "record_u64"), ("u8", "record_u64"),
       ("i64", "record_i64"), ("isize", "record_i64"), ("i32", "record_i64"), ("i16", "record_i64"), ("i8", "record_i64"),
       ("u128", "record_u128"), ("i128", "record_i128"), ("bool", "record_bool"), ("f64", "record_f64"), ("f32", "record_f64")] :=
  ⟨rfl, rfl, rfl, rfl, rfl, rfl, rfl⟩

/-- same signedness and the target at least as wide: then the cast of a row never changes a value of the source type
(`cast_preserves`) -/
def Widens (src tgt : String) : Bool :=
  match bits src, bits tgt with
  | some (s1, w1), some (s2, w2) => s1 == s2 && decide (w1 ≤ w2)
  | _, _ => false

theorem rows_widen : (prim.all fun r => (bits r.1).isNone || Widens r.1 r.2.2) = true := by decide

theorem row_widens {r : String × String × String} (hr : r ∈ prim) (hb : (bits r.1).isSome = true) :
    Widens r.1 r.2.2 = true := by
  have := List.all_eq_true.mp rows_widen r hr
  rwa [Option.isNone_eq_false_iff.2 hb, Bool.false_or] at this

theorem bits_pos {t : String} {sg : Bool} {w : Nat} (h : bits t = some (sg, w)) : 8 ≤ w := by
  unfold bits at h
  split at h <;> simp at h <;> omega

theorem nonzero_excludes_no_int : (noNonZeroFor.all fun t => (bits t).isNone) = true := by decide

theorem two_pow_mono {a b : Nat} (h : a ≤ b) : (2 : Int) ^ a ≤ (2 : Int) ^ b := by
  have : (2 : Nat) ^ a ≤ (2 : Nat) ^ b := Nat.pow_le_pow_right (by decide) h
  exact_mod_cast this

theorem cast_preserves (src tgt : String) (hw : Widens src tgt = true) (v : Int) (hr : inRange src v = true) :
    castTo tgt v = v ∧ inRange tgt v = true := by
  unfold Widens at hw
  split at hw
  case h_2 => cases hw
  rename_i s1 w1 s2 w2 hs ht
  simp only [Bool.and_eq_true, beq_iff_eq, decide_eq_true_eq] at hw
  obtain ⟨rfl, hle⟩ := hw
  have hpos := bits_pos ht
  cases s1 <;> simp only [inRange, castTo, hs, ht, Bool.and_eq_true, decide_eq_true_eq] at hr ⊢
  · have hlt : v < 2 ^ w2 := Int.lt_of_lt_of_le hr.2 (two_pow_mono hle)
    exact ⟨Int.emod_eq_of_lt hr.1 hlt, hr.1, hlt⟩
  · -- the signed range of width `w2` is `[-h, h)` with `2 ^ w2 = 2 * h`: shifted by `h`, a value of the narrower type is its own residue
    have hm : (2 : Int) ^ (w1 - 1) ≤ 2 ^ (w2 - 1) := two_pow_mono (by omega)
    have hdbl : (2 : Int) ^ w2 = 2 * 2 ^ (w2 - 1) := by
      rw [show w2 = (w2 - 1) + 1 by omega, Int.pow_succ, Nat.add_sub_cancel]; omega
    rw [hdbl, Int.emod_eq_of_lt (by omega) (by omega)]
    omega

theorem find?_of_unique {α : Type} {p : α → Bool} {l : List α} {a : α} (ha : a ∈ l) (hp : p a = true)
    (hu : (l.filter p).length = 1) : l.find? p = some a := by
  obtain ⟨b, hb⟩ := List.length_eq_one_iff.1 hu
  have : a ∈ l.filter p := List.mem_filter.2 ⟨ha, hp⟩
  rw [hb, List.mem_singleton] at this
  rw [← List.head?_filter, hb, this]; rfl

/-- **C10.typed_dispatch** — for every integer row of the table extracted from field.rs and EVERY value
of the source type (and of its NonZero form): the value is presented through the row's visitor method
and the presented number EQUALS the source value; Wrapping / & / Box present what their inner value presents -/
theorem typed_dispatch (r : String × String × String) (hr : r ∈ prim) (hb : (bits r.1).isSome = true)
    (nz : Bool) (v : Int) (hv : inRange r.1 v = true) (hu : (prim.filter (fun x => x.1 == r.1)).length = 1) :
    present (.int r.1 nz v) = some (methodShort r.2.1, toString v) ∧
    present (.wrapped (.int r.1 nz v)) = present (.int r.1 nz v) := by
  refine ⟨?_, rfl⟩
  obtain ⟨hNormalArmPassesValue, hNonzeroArmPassesGet, hCastArmIsAs, -⟩ := table_facts
  have hcast := (cast_preserves r.1 r.2.2 (row_widens hr hb) v hv).1
  have hnz : noNonZeroFor.contains r.1 = false := by
    cases h : noNonZeroFor.contains r.1
    · rfl
    · have := List.all_eq_true.mp nonzero_excludes_no_int r.1 (List.contains_iff_mem.1 h)
      rw [Option.isNone_iff_eq_none.1 this] at hb; cases hb
  have hfind : lookupPrim r.1 = some (r.2.1, r.2.2) := by
    rw [lookupPrim, find?_of_unique hr (by simp) hu]; rfl
  -- whichever arm (NonZero or plain) and whether or not the row casts, the number shown is `v`
  simp only [present, hnz, Bool.and_false, Bool.false_eq_true, if_false, hfind, hNormalArmPassesValue, hNonzeroArmPassesGet, hCastArmIsAs,
    Bool.true_and, Bool.and_true, Bool.or_not_self, if_true, hcast, ite_self]

theorem ordered_perm (fs : List FieldD) : (ordered fs).Perm fs := List.filter_append_perm _ fs

/-- **C10.names_in_order** — for ANY list of field forms: the visitor sees the format-string message first,
then the declared fields in declaration order, each at most once — exactly those that have a value -/
theorem names_in_order (fs : List FieldD) :
    (visited fs).map (·.1) =
      ((fs.filter (fun f => isMessage f.val) ++ fs.filter (fun f => !isMessage f.val)).filter (fun f => (present f.val).isSome)).map (·.name) := by
  simp only [visited, ordered]
  generalize fs.filter (fun f => isMessage f.val) ++ fs.filter (fun f => !isMessage f.val) = l
  induction l with
  | nil => rfl
  | cons x xs ih =>
    simp only [List.filterMap_cons, List.filter_cons]
    cases hp : present x.val with
    | none => simpa [hp] using ih
    | some mv => simp [ih]

/-- **C10.value_alignment** — every (name, method, value) the visitor sees is a declared field presenting ITS OWN value -/
theorem value_alignment (fs : List FieldD) (e : Str × String × String) (he : e ∈ visited fs) :
    ∃ f ∈ fs, e.1 = f.name ∧ present f.val = some (e.2.1, e.2.2) := by
  simp only [visited, List.mem_filterMap] at he
  obtain ⟨f, hf, hm⟩ := he
  obtain ⟨mv, hp, rfl⟩ := Option.map_eq_some_iff.1 hm
  exact ⟨f, (ordered_perm fs).mem_iff.1 hf, rfl, hp⟩

/-- **C10.empty_not_visited** — `field::Empty` (a declared but unset field) is never presented -/
theorem empty_not_visited : present .empty = none := rfl

/-- **C10.eval_once_or_never** — enabled: every counted field / message expression is evaluated exactly
once; disabled by the static interest, by the dynamic `enabled`, or by the level cap: nothing is visited and
nothing is evaluated -/
theorem eval_once_or_never (r : Regime) (level : Nat) (fs : List FieldD) :
    (enabledUnder r level = true → (invoke r level fs).2.all (· == 1) = true ∧ (invoke r level fs).1 = visited fs) ∧
    (enabledUnder r level = false → (invoke r level fs).2.all (· == 0) = true ∧ (invoke r level fs).1 = []) := by
  constructor <;> intro h <;> simp [invoke, h, List.all_replicate]

/-- **C10.every_set_field_visited** — for ANY list of field forms, every declared field that has a value (whatever its form
and position, the message included) is presented to the visitor under its own name with its own method and value -/
theorem every_set_field_visited (fs : List FieldD) (f : FieldD) (hf : f ∈ fs) (m v : String)
    (hp : present f.val = some (m, v)) : (f.name, m, v) ∈ visited fs := by
  simp only [visited, List.mem_filterMap]
  exact ⟨f, (ordered_perm fs).mem_iff.2 hf, by simp [hp]⟩

/-- **C10.visited_exactly_once** — the number of presentations equals the number of declared fields that have a value: with
`every_set_field_visited` and `value_alignment`, each set field is presented exactly once and nothing else is -/
theorem visited_exactly_once (fs : List FieldD) :
    (visited fs).length = (fs.filter (fun f => (present f.val).isSome)).length := by
  rw [visited, List.length_filterMap_eq_countP, (ordered_perm fs).countP_eq, List.countP_eq_length_filter]
  simp only [Option.isSome_map]

example : typed_dispatch ("u8", "record_u64", "u64") (by decide) (by decide) false 255 (by decide) (by decide) =
    typed_dispatch ("u8", "record_u64", "u64") (by decide) (by decide) false 255 (by decide) (by decide) := rfl
example : present (.int "i8" false (-128)) = some ("i64", "-128") ∧ present (.int "u128" true (2 ^ 128 - 1)) = some ("u128", toString ((2 : Int) ^ 128 - 1)) := by decide

end C10
