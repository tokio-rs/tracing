/-
C15 — "The non-blocking writer neither loses, duplicates nor reorders accepted lines"

  Every buffer the non-blocking writer accepts is written to the underlying writer exactly once,
  whole, and in the order accepted (per producer, and consistent with one total order); in lossy
  mode the number written plus the reported dropped count equals the number offered, in non-lossy
  mode nothing is dropped and producers wait instead. A failed write of one line affects only that
  line, and dropping the worker guard writes out and flushes everything accepted before the drop
  and releases the underlying writer.

Model: Core/NonBlocking.lean — a transition system over the channel operations and the underlying
writer's call completions, for ANY number of producers and lines, any capacity, both modes, every
interleaving and every fault script (a history is the list of steps in the order they happened).
Two facts it depends on are extracted from non_blocking.rs / worker.rs on every run.

Every operation is a short sequence of ten primitive actions (`Prim`, `step_prims`); the two
invariants (`Inv`, `Drain`) are checked against the primitives only.
-/
import TracingModel.Core.NonBlocking
import TracingModel.Lemmas.AtomicCount

namespace C15
open TM.NonBlocking TM.Gen.NonBlockingFacts

/-- the values the regenerated `Gen/NonBlockingFacts.lean` has now: a change of non_blocking.rs / worker.rs that alters one of
them fails here first -/
theorem code_facts :
    lossyCountsEveryFailure = true ∧ flushErrorMasksTerminal = false ∧ nonLossyBlockingSend = true ∧
    workOrder = ["recv", "try_recv", "flush"] ∧ writeErrorReturnsEarly = true ∧ terminalDropsWriterAndExits = true ∧
    errorKeepsLooping = true := ⟨rfl, rfl, rfl, rfl, rfl, rfl, rfl⟩

def good : Facts := { countsEveryFailure := true, flushMasksTerminal := false }
theorem codeFacts_good : codeFacts = good := by
  obtain ⟨hLossyCountsEveryFailure, hFlushErrorMasksTerminal, -⟩ := code_facts
  rw [codeFacts, hLossyCountsEveryFailure, hFlushErrorMasksTerminal, good]

def current (s : S) : List Nat := match s.w with | .atWrite id _ => [id] | _ => []

structure Inv (s : S) : Prop where
  fifo : s.taken ++ queueLines s.queue = s.accepted
  cur : s.outcomes.map (·.1) ++ current s = s.taken
  acct : (s.lossy = true → s.offered = s.accepted.length + s.dropped ∧ s.refused = 0) ∧
         (s.lossy = false → s.offered = s.accepted.length + s.refused ∧ s.dropped = 0)
  bound : s.queue.length ≤ s.cap
  exitedW : s.w = .exited → s.writerDropped = true

theorem queueLines_append (a b : List Msg) : queueLines (a ++ b) = queueLines a ++ queueLines b := by
  simp [queueLines, List.filterMap_append]

theorem Inv.init (cap : Nat) (lossy : Bool) : Inv (S.init cap lossy) :=
  ⟨rfl, rfl, ⟨fun _ => ⟨rfl, rfl⟩, fun _ => ⟨rfl, rfl⟩⟩, Nat.zero_le _, nofun⟩

/-- What an operation can do to the state, with the behaviour the source has now.  The hypotheses are the guards
under which `step` performs the action. -/
inductive Prim : S → S → Prop
  | drop (s : S) : s.lossy = true → Prim s { s with offered := s.offered + 1, dropped := s.dropped + 1 }
  | refuse (s : S) : s.lossy = false → Prim s { s with offered := s.offered + 1, refused := s.refused + 1 }
  | enqLine (s : S) (id : Nat) : s.queue.length < s.cap →
      Prim s { s with offered := s.offered + 1, queue := s.queue ++ [.line id], accepted := s.accepted ++ [id] }
  | enqShutdown (s : S) : s.guardDropped = false → s.queue.length < s.cap →
      Prim s { s with queue := s.queue ++ [.shutdown], guardDropped := true, acceptedAtDrop := s.accepted.length }
  | deqLine (s : S) (id : Nat) (rest : List Msg) (first : Bool) : current s = [] → s.queue = .line id :: rest →
      Prim s { s with queue := rest, w := .atWrite id first, taken := s.taken ++ [id] }
  | deqShutdown (s : S) (rest : List Msg) : current s = [] → s.queue = .shutdown :: rest →
      Prim s { s with queue := rest, w := .atFlush true, sawShutdown := true }
  | finish (s : S) (id : Nat) (first ok f : Bool) : s.w = .atWrite id first →
      Prim s { s with outcomes := s.outcomes ++ [(id, ok)], w := .idle, flushedAfterLastWrite := f }
  | toFlush (s : S) : s.w = .idle → Prim s { s with w := .atFlush false }
  | flushed (s : S) (f : Bool) : s.w = .atFlush false → Prim s { s with flushedAfterLastWrite := f, w := .idle }
  | exit (s : S) (f : Bool) : s.w = .atFlush true →
      Prim s { s with flushedAfterLastWrite := f, w := .exited, writerDropped := true }

section
variable {P : S → Prop} (hP : ∀ {s s'}, Prim s s' → P s → P s')
include hP

theorem wake_prims (s : S) (h : P s) : P (wake s) := by
  unfold wake
  split
  · rename_i hw hq; exact hP (.deqLine s _ _ true (by simp [current, hw]) hq) h
  · rename_i hw hq; exact hP (.deqShutdown s _ (by simp [current, hw]) hq) h
  · rename_i hw hq; exact hP (.deqLine s _ _ true (by simp [current, hw]) hq) h
  · rename_i hw hq; exact hP (.deqShutdown s _ (by simp [current, hw]) hq) h
  · exact h

theorem next_prims (s : S) (hw : s.w = .idle) (h : P s) : P (next s) := by
  unfold next
  split
  · rename_i hq; exact hP (.deqLine s _ _ false (by simp [current, hw]) hq) h
  · rename_i hq; exact hP (.deqShutdown s _ (by simp [current, hw]) hq) h
  · exact hP (.toFlush s hw) h

theorem step_prims (s : S) (h : P s) (op : Op) : P (step good s op).1 := by
  cases op with
  | offer id =>
    simp only [step, good, if_true]
    split
    · split
      · exact hP (.drop s ‹_›) h
      · exact hP (.refuse s (Bool.eq_false_iff.2 ‹_›)) h
    · split
      · exact wake_prims hP _ (hP (.enqLine s id ‹_›) h)
      · split
        · exact hP (.drop s ‹_›) h
        · exact h   -- the producer waits: `offered + 1 - 1` is the state itself, by `rfl`
  | writeDone ok =>
    simp only [step]
    split
    · rename_i id first hw
      cases ok
      · exact wake_prims hP _ (hP (.finish s id first false _ hw) h)
      · -- `next` overwrites the phase: the finished write may be taken to leave the worker idle first
        exact next_prims hP { s with outcomes := s.outcomes ++ [(id, true)], w := .idle, flushedAfterLastWrite := false } rfl
          (hP (.finish s id first true false hw) h)
    · exact h
  | flushDone ok =>
    simp only [step, good]
    split
    · rename_i terminal hw
      cases terminal
      · cases ok <;> exact wake_prims hP _ (hP (.flushed s _ hw) h)
      · cases ok <;> exact hP (.exit s _ hw) h
    · exact h
  | dropGuard =>
    simp only [step]
    split
    · exact h
    · split
      · rename_i hg hroom
        have hlive : s.guardDropped = false := Bool.eq_false_iff.2 fun g => hg (by rw [g]; rfl)
        exact wake_prims hP _ (hP (.enqShutdown s hlive hroom) h)
      · exact h

theorem run_prims {s : S} (h : P s) (ops : List Op) : P (run good s ops) :=
  List.foldlRecOn ops _ h fun s h op _ => step_prims hP s h op

end

theorem prim_inv {s s' : S} (p : Prim s s') (h : Inv s) : Inv s' := by
  cases p with
  | drop hl =>
    exact { h with acct := ⟨fun _ => by have := h.acct.1 hl; dsimp only; omega, fun x => absurd (hl.symm.trans x) nofun⟩ }
  | refuse hl =>
    exact { h with acct := ⟨fun x => absurd (hl.symm.trans x) nofun, fun _ => by have := h.acct.2 hl; dsimp only; omega⟩ }
  | enqLine id hroom =>
    exact { h with
      fifo := by rw [queueLines_append, ← List.append_assoc, h.fifo]; rfl
      acct := ⟨fun x => by have := h.acct.1 x; simp only [List.length_append, List.length_cons, List.length_nil]; omega,
               fun x => by have := h.acct.2 x; simp only [List.length_append, List.length_cons, List.length_nil]; omega⟩
      bound := by rw [List.length_append]; exact hroom }
  | enqShutdown _ hroom =>
    exact { h with
      fifo := by rw [queueLines_append, ← List.append_assoc, h.fifo]; exact List.append_nil _
      bound := by rw [List.length_append]; exact hroom }
  | deqLine id rest first hc hq =>
    have cur := h.cur
    rw [hc, List.append_nil] at cur
    have fifo := hq ▸ h.fifo
    have bound := hq ▸ h.bound
    exact { h with fifo := by rw [List.append_assoc]; exact fifo, cur := by rw [← cur]; rfl,
                   bound := Nat.le_of_succ_le bound, exitedW := nofun }
  | deqShutdown rest hc hq =>
    have cur := h.cur
    rw [hc, List.append_nil] at cur
    have fifo := hq ▸ h.fifo
    have bound := hq ▸ h.bound
    exact { h with fifo := fifo, cur := by rw [← cur]; exact List.append_nil _, bound := Nat.le_of_succ_le bound, exitedW := nofun }
  | finish id first ok f hw =>
    have cur := h.cur
    rw [current, hw] at cur
    exact { h with cur := by rw [← cur, List.map_append]; exact List.append_nil _, exitedW := nofun }
  | toFlush hw | flushed f hw =>
    have cur := h.cur
    rw [current, hw] at cur
    exact { h with cur := cur, exitedW := nofun }
  | exit f hw =>
    have cur := h.cur
    rw [current, hw] at cur
    exact { h with cur := cur, exitedW := fun _ => rfl }

theorem inv_reachable (cap : Nat) (lossy : Bool) (ops : List Op) : Inv (run good (S.init cap lossy) ops) :=
  run_prims prim_inv (Inv.init cap lossy) ops

/-- the lines queued ahead of the guard's Shutdown (all of them while there is none) -/
def ahead : List Msg → Nat
  | [] => 0
  | .shutdown :: _ => 0
  | .line _ :: q => ahead q + 1

theorem ahead_le_append (q r : List Msg) : ahead q ≤ ahead (q ++ r) := by
  induction q with
  | nil => exact Nat.zero_le _
  | cons m q ih => cases m <;> simp [ahead, ih]

theorem ahead_shutdown_last (q : List Msg) (h : Msg.shutdown ∉ q) : ahead (q ++ [.shutdown]) = (queueLines q).length := by
  induction q with
  | nil => rfl
  | cons m q ih => cases m <;> simp_all [ahead, queueLines]

/-- The guard's Shutdown is enqueued behind everything accepted before the drop (`before` holds with
equality then, and trivially until then: `acceptedAtDrop` is still 0); enqueuing behind it and dequeuing
ahead of it keep `before`, so nothing is ahead any more when the Shutdown reaches the head; and the
worker turns terminal only by dequeuing it (`term`). -/
structure Drain (s : S) : Prop where
  live : s.guardDropped = false → Msg.shutdown ∉ s.queue
  before : s.acceptedAtDrop ≤ s.taken.length + ahead s.queue
  term : s.w = .atFlush true ∨ s.w = .exited → s.guardDropped = true ∧ s.acceptedAtDrop ≤ s.taken.length

theorem Drain.init (cap : Nat) (lossy : Bool) : Drain (S.init cap lossy) :=
  ⟨fun _ => nofun, Nat.zero_le _, by simp [S.init]⟩

theorem prim_drain {s s' : S} (p : Prim s s') (hI : Inv s) (h : Drain s) : Drain s' := by
  cases p with
  | drop | refuse => exact { h with }
  | enqLine id =>
    exact { h with
      live := fun g m => (List.mem_append.1 m).elim (h.live g) (nomatch List.mem_singleton.1 ·)
      before := Nat.le_trans h.before (Nat.add_le_add_left (ahead_le_append _ _) _) }
  | enqShutdown g =>
    -- `before` starts as an equality: everything accepted so far is taken or queued, and all that is queued is ahead
    exact { live := nofun
            before := by rw [ahead_shutdown_last _ (h.live g), ← hI.fifo, List.length_append]; exact Nat.le_refl _
            term := fun x => absurd ((h.term x).1.symm.trans g) nofun }
  | deqLine id rest first _ hq =>
    have live := hq ▸ h.live
    have before := hq ▸ h.before
    refine { live := fun g m => live g (List.mem_cons_of_mem _ m), before := ?_, term := by rintro (x | x) <;> cases x }
    show s.acceptedAtDrop ≤ (s.taken ++ [id]).length + ahead rest
    rw [ahead] at before
    rw [List.length_append, List.length_singleton]
    omega
  | deqShutdown rest _ hq =>
    have live := hq ▸ h.live
    -- a Shutdown at the head of the queue: the guard was dropped, and nothing is ahead of it any more
    have before := hq ▸ h.before
    exact { live := fun g => absurd List.mem_cons_self (live g), before := Nat.le_trans before (Nat.le_add_right _ _),
            term := fun _ => ⟨eq_true_of_ne_false fun g => live g List.mem_cons_self, before⟩ }
  | finish | toFlush | flushed => exact { h with term := by rintro (x | x) <;> cases x }
  | exit f hw => exact { h with term := fun _ => h.term (.inl hw) }

/-- what the code does: the model with the facts extracted from the source -/
def runCode (cap : Nat) (lossy : Bool) (ops : List Op) : S := run codeFacts (S.init cap lossy) ops

theorem runCode_inv (cap : Nat) (lossy : Bool) (ops : List Op) :
    Inv (runCode cap lossy ops) ∧ Drain (runCode cap lossy ops) ∧ (runCode cap lossy ops).lossy = lossy := by
  unfold runCode
  rw [codeFacts_good]
  exact run_prims (P := fun s => Inv s ∧ Drain s ∧ s.lossy = lossy)
    (fun p ⟨hI, hD, hl⟩ => ⟨prim_inv p hI, prim_drain p hI hD, by cases p <;> exact hl⟩)
    ⟨Inv.init cap lossy, Drain.init cap lossy, rfl⟩ ops

/-- **C15.fifo_exactly_once** — after EVERY history (any producers, lines, capacity, mode,
interleaving, fault script): the lines the worker has dequeued, followed by those still queued, are
exactly the accepted lines in acceptance order; every dequeued line has exactly one outcome (written
or failed) in that same order, except the one the writer is working on.  So nothing accepted is
lost, duplicated or reordered, and a failed write costs exactly that line. -/
theorem fifo_exactly_once (cap : Nat) (lossy : Bool) (ops : List Op) :
    let s := runCode cap lossy ops
    s.taken ++ queueLines s.queue = s.accepted ∧ s.outcomes.map (·.1) ++ current s = s.taken :=
  have h := (runCode_inv cap lossy ops).1
  ⟨h.fifo, h.cur⟩

/-- written and failed lines partition the finished ones, each in acceptance order -/
theorem written_in_order (cap : Nat) (lossy : Bool) (ops : List Op) :
    let s := runCode cap lossy ops
    (written s).Sublist s.accepted ∧ (failed s).Sublist s.accepted ∧
    (written s).length + (failed s).length = s.outcomes.length := by
  intro s
  have h : Inv s := (runCode_inv cap lossy ops).1
  have hsub : (s.outcomes.map (·.1)).Sublist s.accepted := by
    rw [← h.fifo, ← h.cur]
    exact (List.sublist_append_left _ _).trans (List.sublist_append_left _ _)
  refine ⟨(List.filter_sublist.map _).trans hsub, (List.filter_sublist.map _).trans hsub, ?_⟩
  rw [List.length_eq_countP_add_countP (·.2) (l := s.outcomes)]
  simp [written, failed, List.countP_eq_length_filter]

/-- **C15.accounting** — lossy: offered = accepted + dropped (every line that was not enqueued is
counted, whether the queue was full or the worker gone); non-lossy: nothing is ever counted as
dropped — a producer either gets in (possibly after waiting) or is told the channel is closed -/
theorem accounting (cap : Nat) (lossy : Bool) (ops : List Op) :
    let s := runCode cap lossy ops
    (lossy = true → s.offered = s.accepted.length + s.dropped) ∧
    (lossy = false → s.dropped = 0 ∧ s.offered = s.accepted.length + s.refused) := by
  have ⟨hI, _, hl⟩ := runCode_inv cap lossy ops
  have h := hI.acct
  rw [hl] at h
  exact ⟨fun e => (h.1 e).1, fun e => ⟨(h.2 e).2, (h.2 e).1⟩⟩

/-- **C15.shutdown_not_masked** — once the worker has dequeued the guard's Shutdown, the flush that
follows ends the worker whatever its result: it drops the underlying writer and leaves (F13) -/
theorem shutdown_not_masked (s : S) (ok : Bool) (h : s.w = .atFlush true) :
    (step codeFacts s (.flushDone ok)).1.w = .exited ∧ (step codeFacts s (.flushDone ok)).1.writerDropped = true := by
  rw [codeFacts_good]
  simp [step, h, good]

/-- **C15.f13_witness** — with the old ending of `work()` (`flush()?; Ok(state)`) a failed flush on
the Shutdown iteration swallows the message: the worker waits again, never drops the writer, and the
guard's rendezvous can only time out -/
theorem f13_witness :
    let old : Facts := { countsEveryFailure := true, flushMasksTerminal := true }
    let s := run old (S.init 4 true) [.offer 1, .writeDone true, .dropGuard, .flushDone true, .flushDone false]
    s.w = .lostShutdown ∧ s.writerDropped = false ∧ s.guardDropped = true ∧ s.queue = [] := by
  decide

/-- the worker leaves only after it has seen the guard dropped, so `drain_on_drop` holds without assuming the drop -/
theorem exited_drained (cap : Nat) (lossy : Bool) (ops : List Op) (hw : (runCode cap lossy ops).w = .exited) :
    let s := runCode cap lossy ops
    s.guardDropped = true ∧ s.writerDropped = true ∧ s.acceptedAtDrop ≤ s.outcomes.length ∧
    s.outcomes.map (·.1) = s.accepted.take s.outcomes.length := by
  intro s
  have hw : s.w = .exited := hw
  have ⟨(hI : Inv s), (hD : Drain s), _⟩ := runCode_inv cap lossy ops
  have hcur : s.outcomes.map (·.1) = s.taken := by simpa [current, hw] using hI.cur
  have hlen : s.outcomes.length = s.taken.length := by rw [← hcur]; simp
  have ⟨hg, hdrop⟩ := hD.term (.inr hw)
  refine ⟨hg, hI.exitedW hw, hlen ▸ hdrop, ?_⟩
  rw [hcur, hlen, ← hI.fifo]; simp

/-- **C15.drain_on_drop** — in EVERY history: once the guard has been dropped and the worker has
left, every line accepted before the drop has been handed to the underlying writer (written, or
failed with an I/O error of its own), in order, and the underlying writer has been released -/
theorem drain_on_drop (cap : Nat) (lossy : Bool) (ops : List Op)
    (hg : (runCode cap lossy ops).guardDropped = true) (hw : (runCode cap lossy ops).w = .exited) :
    (runCode cap lossy ops).writerDropped = true ∧
    (runCode cap lossy ops).acceptedAtDrop ≤ (runCode cap lossy ops).outcomes.length ∧
    (runCode cap lossy ops).outcomes.map (·.1) = (runCode cap lossy ops).accepted.take (runCode cap lossy ops).outcomes.length := by
  have _ := hg   -- not needed: a worker that has exited has seen the drop (`exited_drained`)
  exact (exited_drained cap lossy ops hw).2

/-- **C15.drop_counter_exact** — producers on any number of threads that fail to enqueue at the same moment: the counter is bumped
by a compare-exchange loop that retries until it wins (`dropCounterRetries`, from non_blocking.rs on every run), one linearizable
increment per failed line; under EVERY interleaving the counter equals its old value plus the number of increments that have
finished — no dropped line goes uncounted (`written + dropped = offered` needs exactly this) -/
theorem drop_counter_exact (c0 : Nat) (ths : List Nat) (hnd : ths.Nodup) (sched : List Nat) (hs : ∀ t ∈ sched, t ∈ ths) :
    let s := TM.AtomicCount.run TM.Gen.NonBlockingFacts.dropCounterRetries true (fun _ => .inc) (TM.AtomicCount.start c0) sched
    s.c = c0 + TM.AtomicCount.finished s ths := by
  have h : TM.Gen.NonBlockingFacts.dropCounterRetries = true := rfl
  rw [h]
  exact TM.AtomicCount.increments_exact c0 ths hnd (fun _ => .inc) (fun _ => rfl) sched hs

/-- with a single compare-exchange whose failure is ignored (read, then try once) two producers failing together count one line -/
theorem drop_counter_lost_witness :
    (TM.AtomicCount.run false true (fun _ => .inc) (TM.AtomicCount.start 0) [0, 1, 0, 1]).c = 1 := TM.AtomicCount.lost_increment_witness

end C15
