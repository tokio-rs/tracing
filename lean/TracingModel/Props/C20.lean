/-
C20 — "The default timestamp is the correct UTC calendar time for every instant"

  The timestamp the formatting layer prints by default is, for every instant the system
  clock can represent, the correct proleptic-Gregorian UTC date and time of that instant in
  RFC 3339 form with microsecond precision (truncated, never rounded up), so that successive
  instants print in non-decreasing order.

Model: TracingModel/Core/DateTime.lean (constants regenerated from datetime.rs into
Gen/DateTimeConsts.lean).  Specification: TracingModel/Spec/Civil.lean.
The axiom audit lists every public theorem of namespace `C20`: helpers are private (`hms`) or live in Lemmas/DateTime.
-/
import TracingModel.Lemmas.DateTime

namespace C20
open TM.DateTime TM.Spec.Civil TM.Gen.DateTimeConsts

def toCivil (d : DT) : Civil := ⟨d.year, d.month, d.day, d.hour, d.minute, d.second⟩

theorem spec_epoch : daysBeforeYear 1970 = 0 := by decide

theorem spec_year_succ (y : Int) : daysBeforeYear (y + 1) = daysBeforeYear y + daysInYear y := by
  simp only [daysBeforeYear, daysInYear, leapsBefore_succ]
  split <;> omega

theorem spec_month_lengths (y : Int) :
    daysInFirstMonths (isLeap y) 12 = daysInYear y := by
  simp only [daysInYear]; cases isLeap y <;> decide

theorem spec_unix_epoch : unixOfCivil ⟨1970, 1, 1, 0, 0, 0⟩ = 0 := by decide

private theorem hms (rs : Int) (h0 : 0 ≤ rs) (h1 : rs < 86400) :
    0 ≤ rs.tdiv 3600 ∧ rs.tdiv 3600 < 24 ∧ 0 ≤ (rs.tdiv 60).tmod 60 ∧ (rs.tdiv 60).tmod 60 < 60 ∧
    0 ≤ rs.tmod 60 ∧ rs.tmod 60 < 60 ∧
    rs.tdiv 3600 * 3600 + (rs.tdiv 60).tmod 60 * 60 + rs.tmod 60 = rs := by
  rw [Int.tdiv_eq_ediv_of_nonneg h0, Int.tdiv_eq_ediv_of_nonneg h0, Int.tmod_eq_emod_of_nonneg h0,
    Int.tmod_eq_emod_of_nonneg (by omega : 0 ≤ rs / 60)]
  omega

/-- **C20.correct** — for every instant `t` (seconds relative to the epoch, any integer) and
any sub-second part, the conversion does not panic, yields a valid Gregorian date-time,
and that date-time denotes exactly `t`; the nanosecond field is passed through. -/
theorem correct (t nanos : Int) :
    ∃ d, fromUnix t nanos = some d ∧ (toCivil d).Valid ∧ unixOfCivil (toCivil d) = t ∧ d.nanos = nanos := by
  obtain ⟨hrs0, hrs1, ht⟩ := daySplit_spec t
  obtain ⟨hn0, hn1, hdays, hleap⟩ := cycles_spec (daySplit t).1
  obtain ⟨m, r, hml, hM1, hM2, hD1, hD2, hU⟩ := monthLoop_spec _ _ hn0 hn1 hleap
  obtain ⟨hh0, hh1, hm0, hm1, hs0, hs1, hsum⟩ := hms _ hrs0 hrs1
  -- `unfold`, not `simp only`: making the equation lemma of `fromUnix` takes 10 s
  unfold fromUnix
  simp only [hml]
  refine ⟨_, rfl, ⟨hM1, hM2, hD1, hD2, hh0, hh1, hm0, hm1, hs0, hs1⟩, ?_, rfl⟩
  simp only [toCivil, unixOfCivil, SECS_PER_HOUR, SECS_PER_MIN, MINS_PER_HOUR, SECS_PER_MIN2]
  rw [hU]
  omega

/-- **C20.pre_epoch** — the `Err` arm of `duration_since` (instant before the epoch, at
distance `secs + nanos/10⁹` below it) is floor division: the pair produced denotes the
same instant and its sub-second part is in range. -/
theorem pre_epoch (secs nanos : Nat) (hn : nanos < 1000000000) :
    let r := splitInstant true secs nanos
    r.1 * 1000000000 + r.2 = -((secs : Int) * 1000000000 + nanos) ∧ 0 ≤ r.2 ∧ r.2 < 1000000000 := by
  simp only [splitInstant, ZERO_NANOS, NEG_EXACT_NANOS, NEG_ADJ, NANOS_PER_SEC, Bool.not_true,
    Bool.false_eq_true, if_false, beq_iff_eq]
  by_cases h : (nanos : Int) = 0
  · simp only [h, if_true]; omega
  · simp only [h, if_false]; omega

theorem post_epoch (secs nanos : Nat) :
    splitInstant false secs nanos = ((secs : Int), (nanos : Int)) :=
  rfl

/-- **C20.micros_truncate** — the printed fraction is `⌊nanos / 1000⌋`: never rounded up. -/
theorem micros_truncate (d : DT) (_h : 0 ≤ d.nanos) :
    ∃ pre, display d = pre ++ padNat 6 (d.nanos.toNat / 1000) ++ ['Z'] ∧
      (d.nanos.toNat / 1000) * 1000 ≤ d.nanos.toNat ∧ d.nanos.toNat < (d.nanos.toNat / 1000 + 1) * 1000 := by
  refine ⟨_, rfl, ?_, ?_⟩ <;> omega

/-- the format strings of `Display` are the ones the model's `display` implements
(a changed format string in the source breaks this obligation) -/
theorem shape_display :
    FMT_BIG = "+{}" ∧ FMT_NEG = "{:05}" ∧ FMT_POS = "{:04}" ∧
    FMT_REST = "-{:02}-{:02}T{:02}:{:02}:{:02}.{:06}Z" :=
  ⟨rfl, rfl, rfl, rfl⟩

/-- **C20.render_total_partial** — for every instant whose distance from the epoch fits
`i64` (all of `SystemTime`'s range except the single second `i64::MIN`, finding F19) the
debug-assertion build prints exactly the mathematical rendering, which by `correct` is the
right date.  The full statement (without the hypothesis) is false: `f19_witness`. -/
theorem render_total_partial (before : Bool) (secs nanos : Nat) (h : secs ≤ I64_MAX) :
    render before secs nanos = renderMath before secs nanos := by
  simp only [render]; rw [if_neg (by omega)]

/-- **C20.f19_witness** — the instant `UNIX_EPOCH - 2^63 s` is representable as `SystemTime`
on Linux, has a well-defined calendar date, but the conversion trips
`debug_assert!(duration.as_secs() <= i64::MAX as u64)`. -/
theorem f19_witness :
    render true 9223372036854775808 0 = "PANIC" ∧
    renderMath true 9223372036854775808 0 = "-292277022657-01-27T08:29:52.000000Z" := by
  constructor <;> decide

/-- non-vacuity / sanity: concrete instants through the whole model -/
example : render false 0 0 = "1970-01-01T00:00:00.000000Z" := by decide
example : render false 951782400 999999999 = "2000-02-29T00:00:00.999999Z" := by decide
example : render true 1 1 = "1969-12-31T23:59:58.999999Z" := by decide

end C20
