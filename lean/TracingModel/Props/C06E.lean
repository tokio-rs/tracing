/-
C06, events — "a span or event created without an explicit parent gets that span as parent, an explicit parent or
explicit root overrides it": what a layer without a filter of its own is shown as an event's span and scope
(Context::event_span / event_scope, model Core/Lookup with no FilterId), and which parent the registry stores for a new span.
-/
import TracingModel.Props.C06
import TracingModel.Core.Lookup

namespace C06
open TM.Lookup

theorem visible_unfiltered (s : LState) : visible s none = exists_ s := by
  funext k
  simp only [visible, exists_]
  cases s.t.spans.lookup k <;> rfl

/-- **C06.event_parent_resolution** — an explicit-root event has no span; a contextual event gets the most recently entered
span that is still in the registry; an event with an explicit parent gets exactly that span (whatever is entered) -/
theorem event_parent_resolution (s : LState) (j : Nat) :
    eventSpan s none .root = none ∧
    eventSpan s none .contextual = s.stack.find? (exists_ s) ∧
    (exists_ s j = true → eventSpan s none (.explicit j) = some j) := by
  refine ⟨rfl, ?_, ?_⟩
  · simp only [eventSpan, lookupCurrent, visible_unfiltered]
  · intro h
    simp only [eventSpan, h, if_true, spanRef, visible_unfiltered]

/-- **C06.span_parent_resolution** — the parent the registry stores with a new span: none for an explicit root, the top of
the thread's stack for a contextual span, the named span for an explicit parent -/
theorem span_parent_resolution (s : LState) (j : Nat) :
    resolve s .root = none ∧ resolve s .contextual = s.stack.head? ∧
    (exists_ s j = true → resolve s (.explicit j) = some j) := by
  refine ⟨rfl, rfl, ?_⟩
  intro h; simp [resolve, h]

/-- an event's scope is its span followed by that span's ancestors, root last -/
theorem event_scope_is_chain (s : LState) (p : Par) (k : Nat) (h : eventSpan s none p = some k)
    (hall : ∀ x ∈ ancestors s k, exists_ s x = true) :
    eventScope s none p = some (ancestors s k) := by
  simp only [eventScope, h, Option.map_some, scopeFrom, visible_unfiltered, Option.some.injEq]
  exact List.filter_eq_self.mpr hall

end C06
