/-
C16 — "Rolling appender: a write lands in its period's file; only the oldest are pruned"

  Every buffer written through the rolling file appender is stored exactly once, whole and in
  order, in the file named for the rotation period (minute, hour, day, or the single file for
  never) that contains the time of the write - a write that overlaps another thread's rotation may
  still land in the file being replaced, but is never lost. A period boundary triggers exactly one
  rotation however many threads write at that instant, time standing still or stepping back never
  rotates, and with a file limit every rotation leaves at most that many of the appender's log
  files, removing the oldest first.

Model: Core/Rolling.lean (hand-written from rolling.rs; compared with the real appender under a
scripted clock on every run); facts about rolling.rs extracted by the translator.
-/
import TracingModel.Lemmas.RollingNames
import TracingModel.Lemmas.Lists

namespace C16
open TM.Rolling TM.Gen.RollingFacts

/-- what rolling.rs must say NOW -/
theorem code_facts :
    neverIsZero = true ∧ rolloverAtOrAfterDeadline = true ∧ advanceFromNow = true ∧ advanceIsCas = true ∧
    pruneEarlyReturnBelowMax = true ∧ pruneSortsByCreation = true ∧ pruneLeavesMaxMinusOne = true ∧
    pruneBeforeCreate = true ∧ newNameFromNow = true ∧ periodsAndRounding = true ∧
    dateFormats = [("MINUTELY", "[year]-[month]-[day]-[hour]-[minute]"), ("HOURLY", "[year]-[month]-[day]-[hour]"),
                   ("DAILY", "[year]-[month]-[day]"), ("NEVER", "[year]-[month]-[day]")] :=
  ⟨rfl, rfl, rfl, rfl, rfl, rfl, rfl, rfl, rfl, rfl, rfl⟩

theorem periodIndex_eq {k : Kind} (hk : k ≠ .never) (t : Nat) : periodIndex k t = t / period k :=
  if_neg (Nat.ne_of_gt (period_pos hk))

theorem roundDate_eq {k : Kind} (hk : k ≠ .never) (t : Nat) : roundDate k t = t / period k * period k := by
  rw [roundDate, if_neg (Nat.ne_of_gt (period_pos hk))]
  exact Nat.sub_eq_of_eq_add (Nat.div_add_mod' t _).symm

theorem nextDate_eq {k : Kind} (hk : k ≠ .never) (t : Nat) : nextDate k t = (t / period k + 1) * period k := by
  rw [nextDate, if_neg (Nat.ne_of_gt (period_pos hk)), roundDate_eq hk, Nat.add_div_right t (period_pos hk)]

theorem newDeadline_eq (s : S) (t : Nat) : newDeadline s t = nextDate s.kind t := by
  obtain ⟨-, -, hAdvanceFromNow, -⟩ := code_facts
  rw [newDeadline, if_pos hAdvanceFromNow]

/-- **C16.round_is_floor** — for every rotation with a period and EVERY instant: `round_date` is the
start of the period containing the instant, `next_date` its end -/
theorem round_is_floor (k : Kind) (hk : k ≠ .never) (t : Nat) :
    roundDate k t ≤ t ∧ t < roundDate k t + period k ∧ roundDate k t % period k = 0 ∧
    nextDate k t = roundDate k t + period k ∧ roundDate k t = periodIndex k t * period k := by
  rw [roundDate_eq hk, nextDate_eq hk, periodIndex_eq hk]
  exact ⟨Nat.div_mul_le_self t _, Nat.lt_div_mul_add (period_pos hk), Nat.mul_mod_left _ _, Nat.succ_mul _ _, rfl⟩

theorem name_of_period {k : Kind} {pre suf : Option String} {t t' : Nat} (h : periodIndex k t = periodIndex k t') :
    fileName k pre suf t = fileName k pre suf t' := by
  simp only [fileName, h]

theorem nextDate_of_period {k : Kind} (hk : k ≠ .never) {t t' : Nat} (h : periodIndex k t = periodIndex k t') :
    nextDate k t = nextDate k t' := by
  rw [periodIndex_eq hk, periodIndex_eq hk] at h
  rw [nextDate_eq hk, nextDate_eq hk, h]

/-- configuration and deadline are set for a rotation at time `t`, the file is not open yet: `Inner::new` before
`create_writer`, a rotating write between `advance_date` and `refresh_writer` -/
structure Dated (k : Kind) (pre suf : Option String) (t : Nat) (s : S) : Prop where
  kind_eq : s.kind = k
  pre_eq : s.pre = pre
  suf_eq : s.suf = suf
  dl : s.deadline = nextDate k t

/-- between writes, configuration, deadline and open file are those of a writer that rotated last at time `t` -/
structure Inv (k : Kind) (pre suf : Option String) (t : Nat) (s : S) : Prop extends Dated k pre suf t s where
  cur : s.current = fileName k pre suf t

theorem Inv.of_period {k : Kind} {pre suf : Option String} {t t' : Nat} {s : S} (h : Inv k pre suf t s) (hk : k ≠ .never)
    (e : periodIndex k t = periodIndex k t') : Inv k pre suf t' s :=
  { h with dl := h.dl.trans (nextDate_of_period hk e), cur := h.cur.trans (name_of_period e) }

theorem openFile_inv {k : Kind} {pre suf : Option String} {t : Nat} {s : S} (h : Dated k pre suf t s) :
    Inv k pre suf t (openFile s (fileName k pre suf t)) := by
  unfold openFile; split <;> exact { h with cur := rfl }

theorem prune_dated {k : Kind} {pre suf : Option String} {t : Nat} {s : S} (h : Dated k pre suf t s) (m : Nat) :
    Dated k pre suf t (prune s m) := by
  unfold prune
  dsimp only
  split <;> exact { h with }

theorem refresh_inv {k : Kind} {pre suf : Option String} {t : Nat} {s : S} (h : Dated k pre suf t s) :
    Inv k pre suf t (refresh s t) := by
  unfold refresh
  rw [h.kind_eq, h.pre_eq, h.suf_eq]
  cases s.max with
  | none => exact openFile_inv h
  | some m => exact openFile_inv (prune_dated h m)

theorem Inv.init (k : Kind) (pre suf : Option String) (max : Option Nat) (t0 : Nat) :
    Inv k pre suf t0 (S.init k pre suf max t0) :=
  openFile_inv ⟨rfl, rfl, rfl, rfl⟩

theorem write_inv {k : Kind} {pre suf : Option String} {prev : Nat} {s : S} (h : Inv k pre suf prev s) (hk : k ≠ .never)
    (t : Nat) (ht : periodIndex k prev * period k ≤ t) (buf : String) : Inv k pre suf t (write s t buf) := by
  have append_inv : ∀ {s : S}, Inv k pre suf t s → Inv k pre suf t (append s buf) :=
    fun i => { i with }
  unfold write
  split
  · exact append_inv (refresh_inv { h with dl := h.kind_eq ▸ newDeadline_eq s t })
  · next hr =>
    -- no rotation: `t` is before the deadline, so still inside the period of `prev`
    refine append_inv (h.of_period hk ?_)
    have hp := period_pos hk
    rw [h.dl, nextDate_eq hk] at hr
    simp only [periodIndex_eq hk] at ht ⊢
    have hlt : t < (prev / period k + 1) * period k :=
      Nat.lt_of_not_le fun hle => hr ⟨Nat.ne_of_gt (Nat.mul_pos (Nat.succ_pos _) hp), hle⟩
    exact (Nat.div_eq_of_lt_le ht hlt).symm

/-- the clock readings of a history never step back below the start of the period of the previous reading
(in particular: any non-decreasing sequence, with exact boundaries, multi-period jumps, month/year ends, leap days) -/
def Monotone (k : Kind) : Nat → List (Nat × String) → Prop
  | _, [] => True
  | prev, (t, _) :: rest => periodIndex k prev * period k ≤ t ∧ Monotone k t rest

/-- the file each write of a history went to -/
def landed (s : S) : List (Nat × String) → List String
  | [] => []
  | (t, b) :: rest => (write s t b).current :: landed (write s t b) rest

/-- **C16.lands_in_period** — for every rotation with a period, every prefix/suffix/limit and EVERY
history of writes whose clock does not step back out of the open period: each write is appended to
the file named for the period that contains its time -/
theorem lands_in_period (k : Kind) (hk : k ≠ .never) (pre suf : Option String) (max : Option Nat) (t0 : Nat)
    (ws : List (Nat × String)) (hm : Monotone k t0 ws) :
    landed (S.init k pre suf max t0) ws = ws.map (fun w => fileName k pre suf w.1) := by
  have hI := Inv.init k pre suf max t0
  generalize S.init k pre suf max t0 = s at *
  induction ws generalizing s t0 with
  | nil => rfl
  | cons w rest ih =>
    have hw := write_inv hI hk w.1 hm.1 w.2
    simp only [landed, List.map_cons, hw.cur]
    exact congrArg _ (ih w.1 hm.2 _ hw)

/-- **C16.names_injective** — for every rotation with a period, every prefix and suffix: two instants get the same file name
exactly when they lie in the same period (the date the name carries determines the period: the day-number → year-month-day
conversion is injective, `TM.Civil.civil_injective`, zero-padded decimal numbers determine their value, and the `-`
separators split the name unambiguously) -/
theorem names_injective (k : Kind) (hk : k ≠ .never) (pre suf : Option String) (t t' : Nat) :
    fileName k pre suf t = fileName k pre suf t' ↔ periodIndex k t = periodIndex k t' :=
  ⟨fileName_injective hk, name_of_period⟩

/-- **C16.same_file_iff_same_period** — hence in every history as in `lands_in_period` two writes are appended to the same
file exactly when their times lie in the same period: no period's writes are mixed into another period's file -/
theorem same_file_iff_same_period (k : Kind) (hk : k ≠ .never) (pre suf : Option String) (max : Option Nat) (t0 : Nat)
    (ws : List (Nat × String)) (hm : Monotone k t0 ws) (i j : Nat) (w w' : Nat × String)
    (hi : ws[i]? = some w) (hj : ws[j]? = some w') :
    (landed (S.init k pre suf max t0) ws)[i]? = (landed (S.init k pre suf max t0) ws)[j]? ↔
      periodIndex k w.1 = periodIndex k w'.1 := by
  rw [lands_in_period k hk pre suf max t0 ws hm]
  simp only [List.getElem?_map, hi, hj, Option.map_some, Option.some.injEq]
  exact names_injective k hk pre suf w.1 w'.1

-- the one place where `civil` meets known dates (that it is the right date is otherwise compared, not proved)
example : civil 19000 = (2022, 1, 8) ∧ civil 19001 = (2022, 1, 9) ∧ civil 11016 = (2000, 2, 29) := by decide

theorem append_names (s : S) (buf : String) : (append s buf).dir.map (·.name) = s.dir.map (·.name) := by
  simp only [append, List.map_map]
  exact List.map_congr_left fun f _ => by simp only [Function.comp]; split <;> rfl

/-- **C16.no_rotation_backwards** — time standing still or stepping back (anywhere before the deadline)
never rotates: the open file, the deadline and the set of files are unchanged; the buffer is appended -/
theorem no_rotation_backwards (s : S) (now : Nat) (buf : String) (h : now < s.deadline ∨ s.deadline = 0) :
    (write s now buf).current = s.current ∧ (write s now buf).deadline = s.deadline ∧
    (write s now buf).dir.map (·.name) = s.dir.map (·.name) := by
  have : ¬ (s.deadline ≠ 0 ∧ s.deadline ≤ now) := by omega
  rw [write, if_neg this]
  exact ⟨rfl, rfl, append_names s buf⟩

/-- **C16.never_is_one_file** — `Rotation::NEVER` never rotates -/
theorem never_is_one_file (pre suf : Option String) (max : Option Nat) (t0 now : Nat) (buf : String) :
    (write (S.init .never pre suf max t0) now buf).current = (S.init .never pre suf max t0).current := by
  -- `openFile` leaves the deadline alone (`Inv.init`), and `nextDate .never _` is 0
  have hd : (S.init .never pre suf max t0).deadline = 0 := (Inv.init .never pre suf max t0).dl
  exact (no_rotation_backwards _ now buf (Or.inr hd)).1

/-- `compare_exchange(expected, new)` attempts, in the order the hardware serialises them -/
def casAll : Nat → List (Nat × Nat) → Nat × List Bool
  | v, [] => (v, [])
  | v, (e, n) :: rest =>
    if v = e then let r := casAll n rest; (r.1, true :: r.2) else let r := casAll v rest; (r.1, false :: r.2)

theorem casAll_stale (v : Nat) (l : List (Nat × Nat)) (h : ∀ a ∈ l, a.1 ≠ v) :
    casAll v l = (v, List.replicate l.length false) := by
  induction l with
  | nil => rfl
  | cons a rest ih =>
    obtain ⟨e, n⟩ := a
    have hne : ¬ v = e := fun x => h (e, n) List.mem_cons_self x.symm
    simp only [casAll, hne, if_false, ih fun x hx => h x (List.mem_cons_of_mem _ hx), List.length_cons, List.replicate_succ]

/-- **C16.one_rotation** — however many threads read the same expired deadline `cur` and try to install
a later one: exactly the first compare-exchange succeeds (so exactly one thread refreshes the writer) -/
theorem one_rotation (cur : Nat) (attempts : List (Nat × Nat)) (hne : attempts ≠ [])
    (h : ∀ a ∈ attempts, a.1 = cur ∧ cur < a.2) :
    (casAll cur attempts).2 = true :: List.replicate (attempts.length - 1) false := by
  cases attempts with
  | nil => exact absurd rfl hne
  | cons a rest =>
    obtain ⟨e, n⟩ := a
    obtain ⟨rfl, hn⟩ := h (e, n) List.mem_cons_self
    -- the first attempt installs `n`; the others still expect the old value
    have hrest := casAll_stale n rest fun x hx => by rw [(h x (List.mem_cons_of_mem _ hx)).1]; omega
    simp only [casAll, if_true, hrest, List.length_cons, Nat.add_sub_cancel]

theorem insert_perm (f : File) (l : List File) : (insertByCreated f l).Perm (f :: l) := by
  induction l with
  | nil => exact List.Perm.refl _
  | cons g rest ih =>
    simp only [insertByCreated]
    split
    · exact List.Perm.refl _
    · exact (List.Perm.cons g ih).trans (List.Perm.swap f g rest)

theorem sort_perm (l : List File) : (sortByCreated l).Perm l := by
  induction l with
  | nil => exact List.Perm.refl _
  | cons f rest ih =>
    exact (insert_perm f _).trans (List.Perm.cons f ih)

def SortedC (l : List File) : Prop := l.Pairwise (fun a b => a.created ≤ b.created)

theorem insert_sorted (f : File) (l : List File) (h : SortedC l) : SortedC (insertByCreated f l) := by
  induction l with
  | nil => simp [insertByCreated, SortedC]
  | cons g rest ih =>
    obtain ⟨hg, hrest⟩ := List.pairwise_cons.mp h
    simp only [insertByCreated]
    split
    · next hlt =>
      exact List.pairwise_cons.mpr
        ⟨List.forall_mem_cons.mpr ⟨Nat.le_of_lt hlt, fun b hb => Nat.le_trans (Nat.le_of_lt hlt) (hg b hb)⟩, h⟩
    · next hge =>
      refine List.pairwise_cons.mpr ⟨fun b hb => ?_, ih hrest⟩
      -- what follows `g` is `f` and `rest`, in some order
      rcases List.mem_cons.mp ((insert_perm f rest).mem_iff.mp hb) with rfl | hb
      · exact Nat.le_of_not_lt hge
      · exact hg b hb

theorem sort_sorted (l : List File) : SortedC (sortByCreated l) := by
  induction l with
  | nil => simp [sortByCreated, SortedC]
  | cons f rest ih => exact insert_sorted f _ ih

theorem filter_names_take (l : List File) (hn : (l.map (·.name)).Nodup) (j : Nat) :
    l.filter (fun f => !((l.take j).map (·.name)).contains f.name) = l.drop j := by
  have e := List.take_append_drop j l
  generalize l.take j = a, l.drop j = b at e ⊢
  subst e
  rw [List.map_append, List.nodup_append] at hn
  obtain ⟨-, -, hdisjoint⟩ := hn
  rw [List.filter_append, List.filter_eq_nil_iff.mpr, List.filter_eq_self.mpr, List.nil_append]
  · intro f hf
    simp only [Bool.not_eq_true', List.contains_eq_mem, decide_eq_false_iff_not]
    exact fun hin => hdisjoint _ hin _ (List.mem_map_of_mem hf) rfl
  · intro f hf
    simp [List.mem_map_of_mem hf]

-- `hmax`: `max_log_files(0)` is kept as `Some(0)` (builder.rs) and `max_files - 1` underflows in `prune_old_logs`
theorem prune_le (s : S) (max : Nat) (hmax : 1 ≤ max) (hn : (s.dir.map (·.name)).Nodup) :
    ((prune s max).dir.filter (isMine (prune s max))).length ≤ max - 1 := by
  unfold prune
  dsimp only
  split
  · omega
  · show ((s.dir.filter _).filter (isMine s)).length ≤ max - 1
    rw [TM.Lists.filter_comm]
    generalize hm : s.dir.filter (isMine s) = mine at *
    have hmn : (mine.map (·.name)).Nodup := hm ▸ (List.filter_sublist.map _).nodup hn
    -- count over the sorted permutation instead: what is left of it is its tail
    have hp := sort_perm mine
    rw [← (hp.filter _).length_eq, filter_names_take _ ((hp.map _).nodup_iff.mpr hmn), List.length_drop, hp.length_eq]
    omega

/-- **C16.prune_bound** — with a file limit `max ≥ 1`, after the prune step of a rotation at most `max - 1` of the
appender's files remain (the rotation then creates at most one), whatever was in the directory — provided file names are
distinct, as they are in a directory -/
theorem prune_bound (s : S) (max : Nat) (hmax : 1 ≤ max) (hn : (s.dir.map (·.name)).Nodup) :
    ((prune s max).dir.filter (isMine (prune s max))).length ≤ max - 1 ∨
    ((prune s max).dir.filter (isMine (prune s max))).length < max :=
  .inl (prune_le s max hmax hn)

/-- **C16.prune_oldest_first** — the files a rotation removes are the oldest: every removed file was created
no later than every file (of the appender) that is kept -/
theorem prune_oldest_first (mine : List File) (k : Nat) :
    ∀ d ∈ (sortByCreated mine).take k, ∀ r ∈ (sortByCreated mine).drop k, d.created ≤ r.created := by
  have hs := sort_sorted mine
  rw [← List.take_append_drop k (sortByCreated mine)] at hs
  exact (List.pairwise_append.mp hs).2.2

end C16
