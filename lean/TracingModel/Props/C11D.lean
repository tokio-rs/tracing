/-
C11, span-scoped directives — "Span-scoped directives raise the enabled level exactly while a
matching span (by name and recorded field values) is entered on the thread, and for that span itself."

Model: Core/EnvDyn.lean (EnvFilter's dynamic directives: by_cs / by_id / the per-thread scope stack).
The specification keeps, instead of the stack, the list of the matching spans that are entered right
now together with the level each had when it was entered; the theorems show that in every
well-nested history the stack IS that list (so a level is raised exactly from a matching span's
enter to its exit), that the fast-path gates (`dynamics.max_level`, `statics.max_level`) never change
a verdict, and that the front end therefore lets through exactly: the matching spans themselves,
whatever a static directive allows, and whatever a currently entered matching span's level allows.
-/
import TracingModel.Props.C11
import TracingModel.Core.EnvDyn

namespace C11
open TM.EnvDyn TM.Directive TM.Lists

theorem mem_dedup (ds : List DDir) (x : DDir) (h : x ∈ dedup ds) : x ∈ ds := by
  refine List.foldlRecOn ds _ (b := []) (motive := fun acc => ∀ x ∈ acc, x ∈ ds) nofun ?_ x h
  intro acc ih d hd x hx
  rcases List.mem_append.mp hx with hx | hx
  · exact ih x (List.mem_filter.mp hx).1
  · exact List.mem_singleton.mp hx ▸ hd

/-- the dynamic table's `max_level` bounds the level of every directive in it -/
def EnvOk (e : Env) : Prop := ∀ d ∈ e.dynamics, d.level ≤ e.dynMax

theorem mkEnv_ok (v : Bool) (ds : List DDir) : EnvOk (mkEnv v ds) :=
  fun d hd => (le_foldl_max DDir.level _ 0).2 d (mem_dedup _ d hd)

theorem matcher_levels (e : Env) (m : CMeta) : ∀ sm ∈ matcherOf e m, ∃ d ∈ e.dynamics, sm.level = d.level := by
  intro sm h
  obtain ⟨d, hd, rfl⟩ := List.mem_map.mp h
  exact ⟨d, (List.mem_filter.mp hd).1, rfl⟩

theorem matcherOf_le (e : Env) (hok : EnvOk e) (m : CMeta) : ∀ sm ∈ matcherOf e m, sm.level ≤ e.dynMax := fun sm h =>
  have ⟨d, hd, e'⟩ := matcher_levels e m sm h
  e' ▸ hok d hd

/-- recording values flips matched flags, never a level -/
theorem recordAll_levels {vals : List (TM.Str × Val)} {l : List SMatch} :
    ∀ sm ∈ recordAll vals l, ∃ sm0 ∈ l, sm.level = sm0.level :=
  List.foldlRecOn vals _ (motive := fun l' : List SMatch => ∀ sm ∈ l', ∃ sm0 ∈ l, sm.level = sm0.level)
    (fun sm h => ⟨sm, h, rfl⟩) fun _ ih _ _ sm hsm => by
    obtain ⟨s0, h0, rfl⟩ := List.mem_map.mp hsm
    exact ih s0 h0

theorem recordAll_le {vals : List (TM.Str × Val)} {l : List SMatch} {b : Nat} (h : ∀ sm ∈ l, sm.level ≤ b) :
    ∀ sm ∈ recordAll vals l, sm.level ≤ b := fun sm hsm =>
  have ⟨sm0, h0, e⟩ := recordAll_levels sm hsm
  e ▸ h sm0 h0

theorem levelOf_le {l : List SMatch} {b : Nat} (h : ∀ sm ∈ l, sm.level ≤ b) : levelOf l ≤ b :=
  foldl_max_le SMatch.level _ 0 b (Nat.zero_le _) fun sm hsm => h sm (List.mem_filter.mp hsm).1

/-- the specification's state: matching spans entered right now, most recent first, with the level each had when entered -/
abbrev Entered := List (Nat × Nat)

structure DInv (e : Env) (s : St) (ent : Entered) : Prop where
  scope : s.scope = ent.map (·.2)
  bound : ∀ x ∈ ent, x.2 ≤ e.dynMax
  stored : ∀ p ∈ s.byId, ∀ sm ∈ p.2, sm.level ≤ e.dynMax
  nodyn : e.hasDynamics = false → ent = []

theorem DInv.init (e : Env) : DInv e St.init [] :=
  ⟨rfl, nofun, nofun, fun _ => rfl⟩

/-- creating a span (a matcher is stored for it if it matches a span-scoped directive) raises nothing yet -/
theorem newSpan_inv (e : Env) (hok : EnvOk e) (s : St) (ent : Entered) (h : DInv e s ent)
    (k : Nat) (m : CMeta) (vals : List (TM.Str × Val)) : DInv e (newSpan e s k m vals) ent := by
  unfold newSpan
  split
  · refine { h with stored := fun p hp => ?_ }
    rcases List.mem_cons.mp hp with rfl | hp
    · exact recordAll_le (matcherOf_le e hok m)
    · exact h.stored p hp
  · exact h

/-- recording values changes which matchers are satisfied, never the stack -/
theorem record_inv (e : Env) (s : St) (ent : Entered) (h : DInv e s ent) (k : Nat) (vals : List (TM.Str × Val)) :
    DInv e (record s k vals) ent := by
  refine { h with stored := fun p hp => ?_ }
  obtain ⟨⟨j, l0⟩, hq, rfl⟩ := List.mem_map.mp hp
  have := h.stored (j, l0) hq
  show ∀ sm ∈ (if j = k then (j, recordAll vals l0) else (j, l0)).2, _
  split
  · exact recordAll_le this
  · exact this

/-- enter pushes the span's current level iff the span has a matcher; `hd`: a span has a matcher only if there are
span-scoped directives (`newSpan` stores one only then) -/
theorem enter_inv (e : Env) (s : St) (ent : Entered) (h : DInv e s ent) (k : Nat) (hd : e.hasDynamics = true ∨ s.byId.lookup k = none) :
    DInv e (enter s k) (match s.byId.lookup k with | some l => (k, levelOf l) :: ent | none => ent) := by
  unfold enter
  cases hl : s.byId.lookup k with
  | none => exact h
  | some l =>
    refine ⟨congrArg (levelOf l :: ·) h.scope, List.forall_mem_cons.mpr ⟨?_, h.bound⟩, h.stored, fun hn => ?_⟩
    · exact levelOf_le (h.stored (k, l) (mem_of_lookup hl))
    · rcases hd with hd | hd
      · rw [hd] at hn; cases hn
      · rw [hl] at hd; cases hd

/-- exit of the most recently entered matching span pops exactly its entry: the level is back to what it was before
the matching enter — the level is raised EXACTLY while the span is entered -/
theorem exit_inv (e : Env) (s : St) (k lv : Nat) (rest : Entered) (h : DInv e s ((k, lv) :: rest))
    (hk : (s.byId.lookup k).isSome = true) : DInv e (exit s k) rest := by
  unfold exit
  rw [if_pos hk]
  exact ⟨congrArg (List.drop 1) h.scope, fun x hx => h.bound x (List.mem_cons_of_mem _ hx), h.stored,
    fun hn => nomatch h.nodyn hn⟩

/-- exit of a span without a matcher leaves the stack alone -/
theorem exit_other (s : St) (k : Nat) (hk : (s.byId.lookup k).isSome = false) : exit s k = s := by
  unfold exit
  rw [hk]
  rfl

theorem close_inv (e : Env) (s : St) (ent : Entered) (h : DInv e s ent) (k : Nat) : DInv e (close s k) ent :=
  { h with stored := fun p hp => h.stored p (List.mem_filter.mp hp).1 }

theorem passes_eq (e : Env) (s : St) (m : CMeta) :
    passes e s m =
      (caredSpan e m || TM.Directive.enabled e.statics m.toMeta || (e.hasDynamics && TM.EnvDyn.enabled e s m)) := by
  unfold passes registerCallsite
  cases caredSpan e m <;> cases TM.Directive.enabled e.statics m.toMeta <;> cases e.hasDynamics <;> rfl

/-- `dyn_passes_spec` for any static table, built by `build` or not -/
theorem passes_spec (e : Env) (s : St) (ent : Entered) (h : DInv e s ent) (m : CMeta) :
    passes e s m =
      (caredSpan e m || TM.Directive.enabled e.statics m.toMeta || ent.any (fun x => decide (m.level ≤ x.2))) := by
  have hsc : s.scope.any (fun f => decide (m.level ≤ f)) = ent.any (fun x => decide (m.level ≤ x.2)) := by
    rw [h.scope, List.any_map]; rfl
  rw [passes_eq]
  cases hc : caredSpan e m
  · cases hs : TM.Directive.enabled e.statics m.toMeta
    · unfold TM.EnvDyn.enabled
      rw [hc, hs, hsc]
      cases ha : ent.any (fun x => decide (m.level ≤ x.2))
      · simp
      · -- some entered span allows it: there are dynamic directives, and its level is within their max level
        obtain ⟨x, hx, hle⟩ := List.any_eq_true.mp ha
        have hd : e.hasDynamics = true := by
          cases hd : e.hasDynamics
          · rw [h.nodyn hd] at hx; cases hx
          · rfl
        have : m.level ≤ e.dynMax := Nat.le_trans (of_decide_eq_true hle) (h.bound x hx)
        simp [hd, this]
    · rfl
  · rfl

/-- **C11.dyn_passes_spec** — in every state reachable by a well-nested history (`DInv`), an emission gets through the
filter's front end (cached interest, then `enabled`) if and only if it is a span matching a span-scoped directive, or a
static directive allows it, or some matching span that is entered on the thread right now had, when it was entered, a level
that allows it.  The two fast-path gates on the tables' max levels never change the verdict. -/
theorem dyn_passes_spec (e : Env) (hst : ∃ ds, e.statics = build ds) (s : St) (ent : Entered) (h : DInv e s ent) (m : CMeta) :
    passes e s m =
      (caredSpan e m || TM.Directive.enabled e.statics m.toMeta || ent.any (fun x => decide (m.level ≤ x.2))) := by
  obtain ⟨_, _⟩ := hst
  exact passes_spec e s ent h m

/-- **C11.matching_span_always** — "and for that span itself": a span that matches a span-scoped directive is let through -/
theorem matching_span_always (e : Env) (s : St) (m : CMeta) (h : caredSpan e m = true) : passes e s m = true := by
  rw [passes_eq, h]
  rfl

/-- non-vacuity / a concrete history: `[req{id=7}]=debug,warn` — a DEBUG event is rejected outside, rejected inside a `req`
span whose id is 8, let through inside a `req` span whose id was recorded as 7, and rejected again after that span's exit
(`+kernel` here and below: string literals are decoded, see the note at the text part of Props/C19.lean) -/
example :
    let e := mkEnv false [{ target := none, inSpan := some (TM.ofString "req"), fields := [(TM.ofString "id", some (.int 7))], level := 4 },
                          { target := none, inSpan := none, fields := [], level := 2 }]
    let req : CMeta := { name := TM.ofString "req", target := TM.ofString "app", level := 3, isSpan := true, fields := [TM.ofString "id"] }
    let dbg : CMeta := { name := TM.ofString "event", target := TM.ofString "app", level := 4, isSpan := false, fields := [] }
    let s1 := newSpan e (newSpan e St.init 0 req [(TM.ofString "id", .int 8)]) 1 req []
    let s2 := record s1 1 [(TM.ofString "id", .int 7)]
    passes e s2 dbg = false ∧ passes e (enter s2 0) dbg = false ∧ passes e (enter s2 1) dbg = true ∧
    passes e (exit (enter s2 1) 1) dbg = false ∧ passes e s2 req = true := by decide +kernel

theorem dedup_snoc (xs : List DDir) (d : DDir) :
    dedup (xs ++ [d]) = (dedup xs).filter (fun x => x.key != d.key) ++ [d] := by
  unfold dedup
  rw [List.foldl_append]
  rfl

theorem dedup_nil_iff (xs : List DDir) : dedup xs = [] ↔ xs = [] := by
  refine ⟨fun h => ?_, fun h => by rw [h]; rfl⟩
  rcases List.eq_nil_or_concat xs with e | ⟨ys, y, rfl⟩
  · exact e
  · rw [List.concat_eq_append, dedup_snoc] at h
    exact absurd h (List.concat_ne_nil _ _)

/-- **C11.later_directive_replaces** — in the dynamic table built from any list of directives followed by `d`, the only directive
with `d`'s target, span name and field matchers is `d` itself (with `d`'s level) -/
theorem later_directive_replaces (xs : List DDir) (d x : DDir) (hx : x ∈ dedup (xs ++ [d])) (hk : x.key = d.key) : x = d := by
  rw [dedup_snoc] at hx
  rcases List.mem_append.mp hx with h | h
  · exact absurd hk (bne_iff_ne.mp (List.mem_filter.mp h).2)
  · exact List.mem_singleton.mp h

/-- F9: two fixed-text (Debug) matchers with the same text make equal keys, so the later directive replaces the earlier
(the arm `ValueMatch`'s `PartialEq` lacked) -/
example : (DDir.key { target := none, inSpan := some (TM.ofString "req"), fields := [(TM.ofString "x", some (.dbg (TM.ofString "abc")))], level := 3 }
    == DDir.key { target := none, inSpan := some (TM.ofString "req"), fields := [(TM.ofString "x", some (.dbg (TM.ofString "abc")))], level := 4 }) = true := by decide +kernel

end C11
