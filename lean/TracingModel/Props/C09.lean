/-
C09 — "Every layer sees every notification exactly once; wrappers are transparent"

  In an unfiltered stack each layer receives each notification kind (callsite registration, new
  span, record, follows-from, event, enter, exit, close, dispatcher registration) exactly once per
  occurrence, inner layers before outer ones, and a veto from one layer's event or metadata check
  stops delivery to all. Wrapping a collector, layer or filter in the provided pass-through
  wrappers (Box, Arc, Some, a one-element Vec, a reload handle, an identity layer) changes neither
  what it observes nor what its neighbours observe, and None or an empty Vec behaves as if absent.

Model: GENERATED.  Gen/Forwarding.lean is the table (wrapper, trait, method) ↦ forward / absent /
custom extracted from the hand-written impl blocks (collect.rs, subscribe/mod.rs incl. the
`subscriber_impl_body!` / `filter_impl_body!` macros, reload.rs, subscriber_filters/mod.rs) and the
ordered calls of every method of both `Layered` impls.  An impl that stops forwarding a method, or a
trait that gains a method nobody classified, breaks the obligation named after it.
-/
import TracingModel.Gen.Forwarding
import TracingModel.Lemmas.Notify

namespace C09
open TM.Gen.Forwarding TM.Notify TM.NotifySpec
open TM.Callsite (Interest)

def cls (w tr m : String) : String :=
  match table.find? (fun r => r.1 == w && r.2.1 == tr && r.2.2.1 == m) with
  | some r => r.2.2.2
  | none => "missing"

/-- the notification kinds of the property, per trait (everything a recording component can observe) -/
def collectNotifs : List String :=
  ["on_register_dispatch", "register_callsite", "enabled", "max_level_hint", "new_span", "record",
   "record_follows_from", "event_enabled", "event", "enter", "exit", "clone_span", "try_close", "current_span"]
def subscribeNotifs : List String :=
  ["on_register_dispatch", "on_subscribe", "register_callsite", "enabled", "on_new_span", "max_level_hint",
   "on_record", "on_follows_from", "event_enabled", "on_event", "on_enter", "on_exit", "on_close", "on_id_change"]
def filterNotifs : List String :=
  ["enabled", "callsite_enabled", "max_level_hint", "event_enabled", "on_new_span", "on_record", "on_enter", "on_exit", "on_close"]

/-- methods that are deliberately not part of the transparency claim: the deprecated `drop_span`
(superseded by `try_close`, which is forwarded) and the type-erasure helper `downcast_raw` -/
def exempt : List String := ["drop_span", "downcast_raw"]

/-- **C09.traits_covered** — every method the three traits declare NOW is either a notification the
theorems below speak about or explicitly exempt; a new trait method breaks this until classified -/
theorem traits_covered :
    (collectMethods.all fun m => collectNotifs.contains m || exempt.contains m) = true ∧
    (subscribeMethods.all fun m => subscribeNotifs.contains m || exempt.contains m) = true ∧
    (filterMethods.all fun m => filterNotifs.contains m) = true := by decide +kernel

/-- `cls` looks in the impl block of its wrapper only.  The `passthrough_*` facts are evaluated in
this form: the kernel then walks the whole table once per wrapper (it shares the block between the
notifications) and not once per notification, which is where the cost of checking them lies. -/
theorem cls_eq_block (w tr m : String) :
    cls w tr m = match (table.filter fun r => r.1 == w && r.2.1 == tr).find? (fun r => r.2.2.1 == m) with
      | some r => r.2.2.2
      | none => "missing" := by
  rw [cls, List.find?_filter]; simp only [Bool.decide_and, Bool.decide_eq_true]

/-- **C09.passthrough_collect** — `Box<C>` and `Arc<C>` forward every notification to the wrapped
collector: same method, nothing else -/
theorem passthrough_collect :
    (["Box<C>", "Arc<C>"].all fun w => collectNotifs.all fun m => cls w "Collect" m == "forward") = true := by
  simp only [cls_eq_block]; decide +kernel

/-- **C09.passthrough_subscribe** — `Box<S>`, `Box<dyn Subscribe>`, `Option<S>` (for `Some`), `Vec<S>`
(for each element) and `reload::Subscriber` forward every notification -/
theorem passthrough_subscribe :
    (["Box<S>", "Box<dyn Subscribe>", "Option<S>", "Vec<S>", "reload::Subscriber"].all fun w =>
       subscribeNotifs.all fun m => cls w "Subscribe" m == "forward") = true := by
  simp only [cls_eq_block]; decide +kernel

/-- **C09.passthrough_filter** — `Arc<dyn Filter>`, `Box<dyn Filter>`, `Option<F>` and
`reload::Subscriber` forward every filter method -/
theorem passthrough_filter :
    (["Arc<dyn Filter>", "Box<dyn Filter>", "Option<F>", "reload::Subscriber"].all fun w =>
       filterNotifs.all fun m => cls w "Filter" m == "forward") = true := by
  simp only [cls_eq_block]; decide +kernel

/-- a recording component: the notifications it has observed, oldest first -/
abbrev Comp := List String

def observe (c : Comp) (m : String) : Comp := c ++ [m]

/-- calling method `m` on `wrapper(x)`: `forward` reaches x once; `absent` runs the trait default,
which does not tell x -/
def callThrough (pattern : String) (x : Comp) (m : String) : Comp :=
  if pattern == "forward" then observe x m else x

/-- **C09.wrapped_observes_same** — what `forward` means: a call through a table row classified
`forward` makes the wrapped component observe exactly the one call it would observe unwrapped -/
theorem wrapped_observes_same (w tr m : String) (h : cls w tr m = "forward") (x : Comp) :
    callThrough (cls w tr m) x m = observe x m := by
  simp [callThrough, h]

/-- any nesting of forwarding wrappers (`Box<Arc<…>>`) forwards: the innermost component observes the one call -/
theorem nested_wrappers (ws : List (String × String)) (m : String)
    (h : ∀ w ∈ ws, cls w.1 w.2 m = "forward") (x : Comp) :
    ws.foldl (fun acc w => if cls w.1 w.2 m == "forward" then acc else false) true = true ∧
    callThrough "forward" x m = observe x m :=
  ⟨List.foldlRecOn (motive := (· = true)) ws _ rfl fun b hb w hw => by simp only [h w hw, beq_self_eq_true, if_true, hb],
   by simp [callThrough]⟩

def layeredCalls (impl m : String) : List (String × String) :=
  match layered.find? (fun r => r.1 == impl && r.2.1 == m) with
  | some r => r.2.2
  | none => []

theorem layeredCalls_eq_calls : layeredCalls = calls := by rfl

/-- the metadata / event checks ask the outer layer first and only then the inner stack (so a veto
stops delivery to all) and callsite registration reaches both -/
theorem layered_veto_shape :
    (["enabled", "event_enabled", "register_callsite"].all fun m =>
        layeredCalls "Collect" m == [("subscriber", m), ("inner", m)] &&
        layeredCalls "Subscribe" m == [("subscriber", m), ("inner", m)]) = true := by decide +kernel

/-- order in which a stack of `n` layers (0 innermost) is notified when every `Layered` calls
"inner, then own layer" -/
def notifyOrder : Nat → List Nat
  | 0 => []
  | n + 1 => notifyOrder n ++ [n]

/-- **C09.layered_once_inner_first** — for stacks of ANY height: every layer is notified exactly
once per occurrence, inner layers before outer ones -/
theorem layered_once_inner_first (n : Nat) : notifyOrder n = List.range n := by
  induction n with
  | zero => rfl
  | succ k ih => rw [notifyOrder, ih, List.range_succ]

/-- a veto anywhere stops delivery to all: with "outer first, inner only if the outer accepted" the
stack's answer is the conjunction of all layers' answers -/
def stackEnabled : List Bool → Bool      -- outermost first
  | [] => true
  | outer :: inner => if outer then stackEnabled inner else false

theorem veto_stops_all (answers : List Bool) : stackEnabled answers = answers.all id := by
  induction answers with
  | nil => rfl
  | cons a rest ih => cases a <;> simp [stackEnabled, ih]

def dataMethods : List String :=
  ["on_new_span", "on_record", "on_follows_from", "on_event", "on_enter", "on_exit", "on_close", "on_id_change",
   "on_register_dispatch"]

/-- what layered.rs says NOW about the Subscribe-level `Layered` (`and_then`): the data notifications
are straight-line, inner then own layer; `on_subscribe` is straight-line, own layer then inner;
the two checks ask the own layer and only then the inner one -/
theorem table_subscribe :
    (∀ m ∈ dataMethods, SeqInnerFirst m) ∧ SeqOuterFirst "on_subscribe" ∧
    GuardOuterFirst "enabled" ∧ GuardOuterFirst "event_enabled" := by decide +kernel
theorem table_data : ∀ m ∈ dataMethods, SeqInnerFirst m := table_subscribe.1
theorem table_checks : GuardOuterFirst "enabled" ∧ GuardOuterFirst "event_enabled" := table_subscribe.2.2

abbrev CollectSeq (m m' : String) : Prop :=
  shape "Collect" m = "seq" ∧ calls "Collect" m = [("inner", m), ("subscriber", m')]
/-- what layered.rs says NOW about the top-level `Layered<_, Registry>` (Collect impl) -/
theorem table_collect :
    CollectSeq "new_span" "on_new_span" ∧ CollectSeq "record" "on_record" ∧
    CollectSeq "record_follows_from" "on_follows_from" ∧ CollectSeq "event" "on_event" ∧
    CollectSeq "enter" "on_enter" ∧ CollectSeq "exit" "on_exit" ∧
    CollectSeq "on_register_dispatch" "on_register_dispatch" ∧
    (shape "Collect" "try_close" = "if_inner" ∧ calls "Collect" "try_close" = [("inner", "try_close"), ("subscriber", "on_close")]) ∧
    (shape "Collect" "enabled" = "guard" ∧ calls "Collect" "enabled" = [("subscriber", "enabled"), ("inner", "enabled")]) ∧
    (shape "Collect" "event_enabled" = "guard" ∧ calls "Collect" "event_enabled" = [("subscriber", "event_enabled"), ("inner", "event_enabled")]) := by
  decide +kernel

/-- the top-level `Layered` (Collect impl) hands every notification to the inner collector first, then to its own layer, once each -/
theorem layered_collect_shape :
    ([("new_span", "on_new_span"), ("record", "on_record"), ("record_follows_from", "on_follows_from"),
      ("event", "on_event"), ("enter", "on_enter"), ("exit", "on_exit"), ("try_close", "on_close"),
      ("on_register_dispatch", "on_register_dispatch")].all fun p =>
        layeredCalls "Collect" p.1 == [("inner", p.1), ("subscriber", p.2)]) = true := by
  simp only [layeredCalls_eq_calls, List.all_cons, List.all_nil, table_collect, beq_self_eq_true, Bool.and_self]

/-- `and_then`'s `Layered` (Subscribe impl) does the same for the span and event notifications -/
theorem layered_subscribe_shape :
    (["on_new_span", "on_record", "on_follows_from", "on_event", "on_enter", "on_exit", "on_close", "on_id_change"].all fun m =>
        layeredCalls "Subscribe" m == [("inner", m), ("subscriber", m)]) = true :=
  layeredCalls_eq_calls ▸ List.all_eq_true.mpr fun m hm =>
    beq_iff_eq.mpr (table_data m (List.mem_append_left ["on_register_dispatch"] hm)).2

/-- after the repair of F23 both `Layered` impls announce dispatcher registration inner-first -/
theorem dispatch_registration_inner_first :
    layeredCalls "Subscribe" "on_register_dispatch" = [("inner", "on_register_dispatch"), ("subscriber", "on_register_dispatch")] ∧
    layeredCalls "Collect" "on_register_dispatch" = [("inner", "on_register_dispatch"), ("subscriber", "on_register_dispatch")] :=
  layeredCalls_eq_calls ▸
    ⟨(table_data "on_register_dispatch" (by simp [dataMethods])).2, by simp only [table_collect]⟩

/-- **C09.each_layer_once_inner_first** — for EVERY `and_then` tree (any shape, any size) and every
data notification: each layer is told exactly once, inner layers before outer ones -/
theorem each_layer_once_inner_first (t : Tree) (m : String) (hm : m ∈ dataMethods) :
    notifyT t m = (leaves t).map fun l => (l.n, m) :=
  notifyT_inner_first (table_data m hm) t

theorem checkT_eq (ans : Layer → Bool) (t : Tree) (m : String) (hm : m = "enabled" ∨ m = "event_enabled") :
    checkT ans t m = sCheckGo ans m (leaves t).reverse :=
  checkT_outer_first (hm.elim (· ▸ table_checks.1) (· ▸ table_checks.2)) ans t

/-- **C09.veto_is_conjunction** — a check (`enabled`, `event_enabled`) through any tree answers the
conjunction of the layers' answers, asks from the outside in, each layer at most once, and asks
nobody after the first veto -/
theorem veto_is_conjunction (t : Tree) (ans : Layer → Bool) (m : String) (hm : m = "enabled" ∨ m = "event_enabled") :
    (checkT ans t m).1 = (leaves t).all ans ∧
    (checkT ans t m).2 <+: (leaves t).reverse.map (fun l => (l.n, m)) := by
  rw [checkT_eq ans t m hm]
  exact ⟨sCheck_fst .., sCheckGo_log_prefix ..⟩

theorem topNotify_eq {m m' : String} (h : CollectSeq m m') (hs : SeqInnerFirst m') (t : Tree) :
    topNotify t m = sNotify (leaves t) m' := by
  simp [topNotify, h.1, h.2, notifyT_inner_first hs]

theorem topClose_eq (t : Tree) : topClose t = sNotify (leaves t) "on_close" := by
  have hs : SeqInnerFirst "on_close" := table_data _ (by simp [dataMethods])
  simp [topClose, table_collect, notifyT_inner_first hs]

theorem topCheck_eq (ans : Layer → Bool) (t : Tree) (m : String) (hm : m = "enabled" ∨ m = "event_enabled") :
    topCheck ans t m = sCheck ans (leaves t) m := by
  rw [sCheck, ← checkT_eq ans t m hm]
  rcases hm with rfl | rfl <;> simp only [topCheck, table_collect, beq_self_eq_true, if_true, Bool.and_self]

theorem init_eq (t : Tree) : NState.init t = sInit (leaves t) := by
  have hSub : SeqOuterFirst "on_subscribe" := table_subscribe.2.1
  have hDis : CollectSeq "on_register_dispatch" "on_register_dispatch" := by simp only [CollectSeq, table_collect, and_self]
  rw [NState.init, sInit, notifyT_outer_first hSub, topNotify_eq hDis (table_data _ (by simp [dataMethods]))]

theorem gate_eq (t : Tree) (h : NoNever t) (s : NState) (mi : Nat) : gate t s mi = sGate (leaves t) s mi := by
  have hi : interestFor t s mi = sInterestFor (leaves t) s mi := by
    simp only [interestFor, sInterestFor, registerT_noNever (levelOf mi) t h]; rfl
  simp only [gate, sGate, hi, topCheck_eq _ t "enabled" (Or.inl rfl)]; rfl

theorem step_eq (t : Tree) (h : NoNever t) (s : NState) (op : Op) : step t s op = sStep (leaves t) s op := by
  obtain ⟨cNew, cRec, cFol, cEv, cEn, cEx, -⟩ := table_collect
  have hd := table_data
  simp only [dataMethods, List.forall_mem_cons] at hd
  obtain ⟨dNew, dRec, dFol, dEv, dEn, dEx, -⟩ := hd
  cases op with
  | event mi =>
    simp only [step, sStep, gate_eq t h, topCheck_eq _ t "event_enabled" (Or.inr rfl), topNotify_eq cEv dEv]
  | span k mi => simp only [step, sStep, gate_eq t h, topNotify_eq cNew dNew]
  | life m k =>
    cases m <;> simp only [step, sStep, Life.collect, topNotify_eq cEn dEn, topNotify_eq cEx dEx, topNotify_eq cRec dRec]
  | follows k j => simp only [step, sStep, topNotify_eq cFol dFol]
  | close k => simp only [step, sStep, topClose_eq]

/-- **C09.refines_spec** — for every `and_then` tree in which no layer statically refuses callsites
and EVERY history of events, spans, enter/exit/record/follows-from/close: the stack built from
`Layered` (as layered.rs describes it now) produces exactly the notification log that the list
specification demands — every layer once per occurrence, inner before outer, checks from the
outside in, nothing delivered after a veto -/
theorem refines_spec (t : Tree) (h : NoNever t) (ops : List Op) : run t ops = sRun (leaves t) ops := by
  rw [run, sRun, init_eq, funext fun s => funext (step_eq t h s)]

def appended (before after : NState) : List Entry := after.log.drop before.log.length

/-- **C09.event_veto_stops_all** — if ANY layer's `event_enabled` refuses the event, the step delivers
`on_event` to NO layer (whatever the other layers say, wherever the refusing layer sits); stated over the
specification's `sStep`, `refines_spec` carries it to the code's model -/
theorem event_veto_stops_all (ls : List Layer) (s : NState) (mi : Nat)
    (hv : ∃ l ∈ ls, acceptsEvent (levelOf mi) l = false) :
    ∀ e ∈ appended s (sStep ls s (.event mi)), e.2 ≠ "on_event" := by
  obtain ⟨x, hx, hk⟩ := sGate_log ls s mi
  have hx' : ∀ e ∈ x, e.2 ≠ "on_event" := fun e he => by rcases hk e he with h | h <;> simp [h]
  have hc : (sCheck (acceptsEvent (levelOf mi)) ls "event_enabled").1 = false := sCheck_fst .. ▸ all_false_of_veto hv
  intro e he
  simp only [appended, sStep, hc, Bool.false_eq_true, if_false] at he
  split at he <;> simp only [hx, List.append_assoc, List.drop_left] at he
  · exact (List.mem_append.mp he).elim (hx' e) fun h => by simp [sCheck_log_kind _ _ _ e h]
  · exact hx' e he

/-- `always` out of callsite registration means every layer said `always` -/
theorem registerT_always (lvl : Nat) (t : Tree) (h : (registerT lvl t).1 = .always) :
    ∀ l ∈ leaves t, staticInterest lvl l.kind = .always := by
  induction t with
  | leaf l => simpa [leaves, registerT] using h
  | node i o ihi iho =>
    simp only [registerT] at h
    cases ho : (registerT lvl o).1 <;> simp [ho] at h
    intro l hl
    exact (List.mem_append.mp hl).elim (ihi h l) (iho ho l)

/-- **C09.meta_veto_stops_all** — ANY tree (including layers that statically refuse callsites): if any
layer's metadata check refuses, the front end's gate is closed — no event, no span reaches anyone -/
theorem meta_veto_stops_all (t : Tree) (s : NState) (mi : Nat)
    (hv : ∃ l ∈ leaves t, acceptsMeta (levelOf mi) l = false)
    (hcache : ∀ i, s.cache.lookup mi = some i → i = (registerT (levelOf mi) t).1) :
    (gate t s mi).2 = false := by
  have hint : (interestFor t s mi).2 = (registerT (levelOf mi) t).1 := by
    unfold interestFor
    split
    · exact hcache _ ‹_›
    · rfl
  unfold gate
  dsimp only
  split
  · rfl
  · obtain ⟨l, hl, ha⟩ := hv
    exact absurd (registerT_always _ t (hint ▸ ‹_ = Interest.always›) l hl) (refuses_not_always ha)
  · simp only [topCheck_eq _ t "enabled" (.inl rfl), sCheck_fst, all_false_of_veto hv]

/-- **C09.absent_transparent** — `None`, an empty `Vec` and `Identity` behave as if absent: in any tree
where no layer statically refuses callsites, what the real layers observe is exactly what they
observe in the stack without the absent ones — for every history -/
theorem absent_transparent (t : Tree) (h : NoNever t) (ha : AbsentPlain (leaves t)) (ops : List Op) :
    vis (run t ops).log = (sRun (present (leaves t)) ops).log := by
  rw [refines_spec t h, sRun_present ha]; rfl

/-- F25 (repaired): next to a layer that statically refuses a callsite, an absent layer used to
turn the stack's `never` into `sometimes` (every `and_then` believed its inner half was the
registry), and the refusing layer was then asked `enabled` for every such event.  With the repair
the refusing layer observes the same with and without the absent layer. -/
theorem f25_repaired :
    let refusing : Tree := .leaf ⟨1, .never 4⟩
    let withNone : Tree := .node refusing (.leaf ⟨0, .plain⟩)
    vis (run withNone [.event 36]).log = vis (run refusing [.event 36]).log ∧
    vis (run refusing [.event 36]).log = [(1, "on_subscribe"), (1, "on_register_dispatch"), (1, "register_callsite")] := by
  intro refusing withNone
  -- building the stack is table-driven and taken from `init_eq`; what F25 touched, the hand-written
  -- `pick_interest` and the front end's gate, is evaluated
  simp only [run, List.foldl_cons, List.foldl_nil, init_eq]
  decide +kernel

def t3 : Tree := .node (.node (.leaf ⟨1, .plain⟩) (.leaf ⟨2, .eventVeto 2⟩)) (.node (.leaf ⟨3, .metaVeto 4⟩) (.leaf ⟨4, .plain⟩))
example : NoNever t3 := by intro l hl k; simp [t3, leaves] at hl; rcases hl with rfl | rfl | rfl | rfl <;> simp
-- a level-5 event (mi 35): all four register, the metadata check asks 4 then 3, layer 3 vetoes: nobody else is told
example : (run t3 [.event 35]).log.drop 8 =
    [(4, "register_callsite"), (3, "register_callsite"), (2, "register_callsite"), (1, "register_callsite"),
     (4, "enabled"), (3, "enabled")] := by decide +kernel
-- a level-1 event passes every check and reaches 1, 2, 3, 4 in that order
example : ((run t3 [.event 3]).log.filter (·.2 == "on_event")).map (·.1) = [1, 2, 3, 4] := by decide +kernel

/-- **C09.reload_waits_for_the_lock** — what reload.rs must say NOW: the reloadable wrapper never POLLS its lock; a callback that
arrives while `Handle::reload` / `modify` holds the write lock waits and is delivered to the (new) value, it is not skipped -/
theorem reload_waits_for_the_lock : TM.Gen.Forwarding.reloadLocksBlocking = true := by decide

end C09
