/-
C01, the compile-time maximum level — "a callsite above the compile-time maximum level is never delivered, one at or below it
is judged by the collectors alone".  Which cargo feature selects which level (tracing/src/level_filters.rs,
`get_max_level_inner`) is extracted on every run; a build with the features `fs` of profile `release?` gets
`staticMax release? fs`.  Also here: the two C01 obligations about the count of live scopes (the shortcut in front of a
thread's scoped default), restated from C02.
-/
import TracingModel.Props.C01R
import TracingModel.Gen.StaticMaxLevel
import TracingModel.Props.C02A

namespace C01
open TM.Gen.StaticMaxLevel

/-- the level a build gets: the first feature of the profile's chain that is switched on decides, else the chain's default.
A feature is named by (is it a `release_…` feature, the level in its name). -/
def staticMax (release : Bool) (on : Bool → Nat → Bool) : Nat :=
  let chain := if release then releaseChain else debugChain
  match chain.find? (fun e => on e.1 e.2.1) with
  | some e => e.2.2
  | none => if release then releaseElse else debugElse

/-- **C01.static_level_table** — what level_filters.rs must say NOW: in each profile the chain asks for that profile's own
features (`release_max_level_*` in release builds, `max_level_*` otherwise), from `off` to `debug` in this order, each selecting
the level its name says, and defaults to TRACE -/
theorem static_level_table :
    releaseChain = [(true, 0, 0), (true, 1, 1), (true, 2, 2), (true, 3, 3), (true, 4, 4)] ∧ releaseElse = 5 ∧
    debugChain = [(false, 0, 0), (false, 1, 1), (false, 2, 2), (false, 3, 3), (false, 4, 4)] ∧ debugElse = 5 :=
  ⟨rfl, rfl, rfl, rfl⟩

/-- whatever set of features is switched on, the least level among the profile's own decides -/
theorem staticMax_eq (release : Bool) (on : Bool → Nat → Bool) :
    staticMax release on = ((List.range 5).find? (on release)).getD 5 := by
  have hc : (if release then releaseChain else debugChain) = (List.range 5).map fun l => (release, l, l) := by
    cases release <;> decide
  have he : (if release then releaseElse else debugElse) = 5 := by cases release <;> rfl
  simp only [staticMax, hc, he, List.find?_map, Function.comp_def]
  cases (List.range 5).find? (on release) <;> rfl

theorem staticMax_least {release : Bool} {on : Bool → Nat → Bool} {m : Nat} (hm : m ≤ 4) (hon : on release m = true)
    (hmin : ∀ k < m, on release k = false) : staticMax release on = m := by
  rw [staticMax_eq, List.find?_range_eq_some.mpr ⟨hon, List.mem_range.mpr (by omega), fun k hk => by rw [hmin k hk]; rfl⟩]
  rfl

theorem staticMax_none {release : Bool} {on : Bool → Nat → Bool} (h : ∀ k < 5, on release k = false) :
    staticMax release on = 5 := by
  rw [staticMax_eq, List.find?_range_eq_none.mpr fun k hk => by rw [h k hk]; rfl]
  rfl

/-- **C01.static_level_of_feature** — a build with exactly one level feature of its own profile gets that level; a feature of
the OTHER profile changes nothing; no feature means TRACE -/
theorem static_level_of_feature (release : Bool) (l : Nat) (hl : l ≤ 4) :
    staticMax release (fun r k => r == release && k == l) = l ∧
    staticMax release (fun r k => r == !release && k == l) = 5 ∧
    staticMax release (fun _ _ => false) = 5 := by
  refine ⟨staticMax_least hl (by simp) fun k hk => by simp [Nat.ne_of_lt hk], staticMax_none fun k _ => ?_,
    staticMax_none fun _ _ => rfl⟩
  cases release <;> rfl

/-- **C01.static_level_strictest** — with several features of the profile the strictest (lowest) wins -/
theorem static_level_strictest (release : Bool) (a b : Nat) (ha : a ≤ 4) (hb : b ≤ 4) :
    staticMax release (fun r k => r == release && (k == a || k == b)) = min a b := by
  refine staticMax_least (by omega) ?_ fun k hk => ?_
  · rcases Nat.le_total a b with h | h
    · simp [Nat.min_eq_left h]
    · simp [Nat.min_eq_right h]
  · have : k ≠ a ∧ k ≠ b := by omega
    simp [this]

/-- opening and closing a scope update the count of live scopes with ONE atomic operation each (from dispatch.rs on every run) -/
theorem scope_count_is_atomic : TM.Gen.AtomicCounts.scopeOpenIsRmw = true ∧ TM.Gen.AtomicCounts.scopeCloseIsRmw = true :=
  C02.scope_counter_code_facts

/-- the count of live scopes being updated atomically (`scope_count_is_atomic`), under every interleaving of any number of
threads opening and closing scopes it reads 0 only when no scope is live anywhere: the shortcut "no scope anywhere => use the global default" never hides a thread's own collector -/
theorem scope_count_zero_means_no_scope (c0 : Nat) (ths : List Nat) (hnd : ths.Nodup) (kind : Nat → TM.AtomicCount.Kind)
    (hroom : (TM.AtomicCount.decs kind ths).length ≤ c0) (sched : List Nat) (hs : ∀ t ∈ sched, t ∈ ths) :
    let s := TM.AtomicCount.run TM.Gen.AtomicCounts.scopeOpenIsRmw true kind (TM.AtomicCount.start c0) sched
    s.c = 0 ↔ c0 + TM.AtomicCount.finished s (TM.AtomicCount.incs kind ths) = TM.AtomicCount.finished s (TM.AtomicCount.decs kind ths) :=
  C02.fast_path_sound c0 ths hnd kind hroom sched hs

end C01
