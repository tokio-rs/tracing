/-
C08, the env-filter with span-scoped directives — "it never answers 'never' for a callsite … that it would accept if asked
dynamically, and it never answers 'always' for a callsite it could reject", for `EnvFilter::register_callsite` against
`EnvFilter::enabled` in EVERY span context (model Core/EnvDyn, the one C11 compares with the real filter).

The `never` clause holds outright.  The `always` clause holds for every callsite except the spans a span-scoped directive cares
about: those are answered `always` whatever their level ("it influences filtering"), while `enabled` — asked when another
collector makes the cached interest `sometimes` — rejects them above the directives' max level.  That is finding F8
(`f8_witness`); the theorem is stated for the rest (`env_always_sound_partial`).
-/
import TracingModel.Props.C08T
import TracingModel.Core.EnvDyn

namespace C08
open TM TM.EnvDyn

theorem mkEnv_wf (viaAdd : Bool) (ds : List DDir) : WF (mkEnv viaAdd ds).statics := by
  unfold mkEnv; exact build_wf _

theorem registerCallsite_cases (e : Env) (m : CMeta) :
    (registerCallsite e m = .never → Directive.enabled e.statics m.toMeta = false ∧ e.hasDynamics = false) ∧
    (registerCallsite e m = .always → caredSpan e m = true ∨ Directive.enabled e.statics m.toMeta = true) := by
  unfold registerCallsite
  cases caredSpan e m <;> cases Directive.enabled e.statics m.toMeta <;> cases e.hasDynamics <;> simp

/-- **C08.env_never_sound** — an env-filter (any static and span-scoped directives, installed by parse or by add_directive) that
answers `never` for a callsite rejects it in every span context -/
theorem env_never_sound (e : Env) (s : St) (m : CMeta) (h : registerCallsite e m = .never) : EnvDyn.enabled e s m = false := by
  obtain ⟨hs, hd⟩ := (registerCallsite_cases e m).1 h
  simp only [EnvDyn.enabled, hd, hs, Bool.false_and, Bool.false_eq_true, if_false, ite_self]

/-- **C08.env_always_sound_partial** — … and one that answers `always` accepts the callsite in every span context, for every
callsite that is not a span cared about by a span-scoped directive (that region is finding F8) -/
theorem env_always_sound_partial (e : Env) (hwf : WF e.statics) (s : St) (m : CMeta) (hn : caredSpan e m = false)
    (h : registerCallsite e m = .always) : EnvDyn.enabled e s m = true := by
  rcases (registerCallsite_cases e m).2 h with hc | hs
  · rw [hn] at hc; cases hc
  · have hle : m.level ≤ e.statics.maxLevel := C11.enabled_le_maxLevel e.statics hwf m.toMeta hs
    simp only [EnvDyn.enabled, hs, hle, decide_true, if_true, ite_self]

/-- **C08.f8_witness** — `[my_span]=info` and a DEBUG span named my_span: `always` from register_callsite, `false` from enabled -/
theorem f8_witness :
    let e := mkEnv false [{ target := none, inSpan := some (TM.ofString "my_span"), fields := [], level := 3 }]
    let m : CMeta := { name := TM.ofString "my_span", target := TM.ofString "app", level := 4, isSpan := true, fields := [] }
    registerCallsite e m = .always ∧ EnvDyn.enabled e St.init m = false := by decide

example : WF (mkEnv true [{ target := some (TM.ofString "app"), inSpan := none, fields := [], level := 3 }]).statics := mkEnv_wf _ _

end C08
