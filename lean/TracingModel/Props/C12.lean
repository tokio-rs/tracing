/-
C12 — "After a reload returns, every thread filters with the new value"

  Once reload or modify on a reload handle has returned, every emission that starts afterwards on
  any thread, from any callsite - including callsites whose previous verdict was cached as always
  or never - is judged by the new filter or layer and by the new maximum level; an emission racing
  with the reload is judged entirely by the old or entirely by the new value, and a handle whose
  collector is gone reports an error instead of acting.

Model: Core/Reload.lean (stack templates with reloadable slots over C07's filtering model, the
process-wide interest cache and MAX_LEVEL, `pick_level_hint`, and `Handle::modify` INTERPRETED from
the step list extracted from reload.rs on every run — Gen/ReloadOrder.lean).
-/
import TracingModel.Core.Reload
import TracingModel.Props.C07
import TracingModel.Props.C04
import TracingModel.Lemmas.StackHint
import TracingModel.Props.C12E   -- nothing of it is used here: imported so that building C12 builds it

namespace C12
open TM.Reload TM.Filtering TM.FilterExpr TM.Directive TM.FilteringLemmas
open TM.Callsite (Interest)

structure Inv (tm : List Tmpl) (pool : Nat → Meta) (s : RState) : Prop where
  cache : ∀ cs i, s.cache.lookup cs = some i → i = stackInterest (instStack s.vals tm) (pool cs)
  ml : s.maxLevel = hintRank (instStack s.vals tm)
  bits : s.t.bits = Bits.clean

/-- what C07 and C08 need of the stack in force (`good_inst`) -/
structure GoodStack (st : Stack) : Prop where
  ne : st ≠ []
  wf : WF st
  honest : HonestStack st
  built : BuiltStack st

theorem interestOf_spec (tm : List Tmpl) (pool : Nat → Meta) (s : RState) (hi : Inv tm pool s) (cs : Nat) :
    ∃ cache', interestOf tm pool s cs = ({ s with cache := cache' }, stackInterest (instStack s.vals tm) (pool cs)) ∧
      ∀ cs' i, cache'.lookup cs' = some i → i = stackInterest (instStack s.vals tm) (pool cs') := by
  unfold interestOf
  cases hc : s.cache.lookup cs with
  | some i => exact ⟨s.cache, congrArg (Prod.mk s) (hi.cache cs i hc), hi.cache⟩
  | none =>
    refine ⟨_, rfl, fun cs' i h => ?_⟩
    simp only [List.lookup_cons] at h
    split at h
    · rename_i e; cases h; rw [beq_iff_eq.mp e]
    · exact hi.cache cs' i h

theorem above_hint {st : Stack} (hg : GoodStack st) {m : Meta} (hm : m.level ≤ 5) (c : Ctx)
    (hl : ¬ m.level ≤ hintRank st) : shouldReceive st m c = [] := by
  apply Decidable.byContradiction
  intro hne
  apply hl
  unfold hintRank
  cases hh : stackHint st with
  | none => exact hm   -- no hint: `hintRank` is 5 = TRACE, the most verbose level there is
  | some i => exact stack_hint_sound _ hg.honest hg.built m c i hh hne

/-- **C12.emit_spec** — in a state satisfying the invariant, an emission from ANY callsite (cached
or hit for the first time) is received by exactly the layers the CURRENT values select -/
theorem emit_spec (tm : List Tmpl) (pool : Nat → Meta) (hpool : ∀ cs, (pool cs).level ≤ 5) (s : RState)
    (hal : s.alive = true) (hi : Inv tm pool s) (hg : GoodStack (instStack s.vals tm)) (cs : Nat) (c : Ctx) :
    (emit tm pool s cs c).2 = shouldReceive (instStack s.vals tm) (pool cs) c ∧
    Inv tm pool (emit tm pool s cs c).1 ∧ (emit tm pool s cs c).1.vals = s.vals ∧ (emit tm pool s cs c).1.alive = true := by
  unfold emit
  simp only [hal, Bool.not_true, Bool.false_eq_true, if_false]
  by_cases hl : (pool cs).level ≤ s.maxLevel
  · simp only [hl, if_true]
    obtain ⟨cache', e, hc⟩ := interestOf_spec tm pool s hi cs
    obtain ⟨r1, r2⟩ := C07.isolation_partial (instStack s.vals tm) hg.ne hg.wf hg.honest s.t hi.bits (pool cs) c
    rw [e, ← C07.emitEvent_eq]
    exact ⟨r1, { cache := hc, ml := hi.ml, bits := r2 }, rfl, hal⟩
  · simp only [hl, if_false]
    exact ⟨(above_hint hg (hpool cs) c (hi.ml ▸ hl)).symm, hi, trivial, hal⟩

/-- what the extracted `Handle::modify` must look like (`reload_live` runs the interpreter on it) -/
theorem modify_order : TM.Gen.ReloadOrder.modifySteps = ["upgrade", "write", "mutate", "unlock", "rebuild"] ∧
    TM.Gen.ReloadOrder.reloadIsModifyAssign = true := ⟨rfl, rfl⟩

/-- by running the interpreter of `Handle::modify` on the extracted step list -/
theorem reload_live (tm : List Tmpl) (pool : Nat → Meta) (s : RState) (hal : s.alive = true) (h : Nat) (e : FExpr) :
    reload tm pool s h e = { s := rebuild tm pool { s with vals := s.vals.set h e } } := by
  obtain ⟨vals, cache, ml, t, alive⟩ := s
  cases hal
  rfl

theorem reload_gone (tm : List Tmpl) (pool : Nat → Meta) (s : RState) (hal : s.alive = false) (h : Nat) (e : FExpr) :
    reload tm pool s h e = { s := s, failed := true } := by
  obtain ⟨vals, cache, ml, t, alive⟩ := s
  cases hal
  rfl

/-- **C12.reload_establishes** — `reload` on a live collector returns Ok having mutated under the
write lock, released it, and rebuilt: the invariant holds for the NEW value WHATEVER was cached
before (callsites cached `always` or `never` under the old value are recomputed; MAX_LEVEL is
recomputed) -/
theorem reload_establishes (tm : List Tmpl) (pool : Nat → Meta) (s : RState) (hal : s.alive = true)
    (hb : s.t.bits = Bits.clean) (h : Nat) (e : FExpr) :
    let r := reload tm pool s h e
    r.failed = false ∧ r.torn = false ∧ r.stuck = false ∧ r.locked = false ∧
    r.s.vals = s.vals.set h e ∧ r.s.alive = true ∧ Inv tm pool r.s ∧
    (r.s.cache.map (·.1)) = s.cache.map (·.1) := by
  simp only [reload_live tm pool s hal h e]
  refine ⟨trivial, trivial, trivial, trivial, rfl, hal, { cache := fun cs i hc => ?_, ml := rfl, bits := hb }, ?_⟩
  · -- every cached entry was recomputed by the rebuild
    obtain ⟨x, _, hx⟩ := List.mem_map.mp (TM.Lists.mem_of_lookup hc)
    cases hx
    rfl
  · simp [rebuild, List.map_map, Function.comp_def]

/-- **C12.gone_is_error** — a handle whose collector is gone reports an error and changes nothing -/
theorem gone_is_error (tm : List Tmpl) (pool : Nat → Meta) (s : RState) (hal : s.alive = false) (h : Nat) (e : FExpr) :
    (reload tm pool s h e).failed = true ∧ (reload tm pool s h e).s = s := by
  rw [reload_gone tm pool s hal h e]
  exact ⟨rfl, rfl⟩

/-- the fixed part of the template is well formed: distinct filter ids, honest fixed filters -/
structure GoodT (tm : List Tmpl) : Prop where
  ne : tm ≠ []
  wf : (tm.filterMap fun | .fixed nd => fidOf nd | .rglob _ => none | .rfilt _ fid _ => some fid).Nodup
  honest : ∀ nd, Tmpl.fixed nd ∈ tm → match nd with
    | .glob g => C08.Honest g ∧ C08.Built g
    | .filt _ f _ => C08.Honest f ∧ C08.Built f
    | .plain _ => True

/-- every installed value is honest (C08: closures' hints bound what they enable) -/
def GoodV (vals : List FExpr) : Prop := ∀ e ∈ vals, C08.Honest e ∧ C08.Built e

theorem getD_good (vals : List FExpr) (hv : GoodV vals) (h : Nat) :
    C08.Honest (vals.getD h .optNone) ∧ C08.Built (vals.getD h .optNone) := by
  simp only [List.getD_eq_getElem?_getD]
  cases hg : vals[h]? with
  | none => exact ⟨trivial, trivial⟩
  | some e => exact hv e (List.mem_of_getElem? hg)

theorem good_inst (tm : List Tmpl) (ht : GoodT tm) (vals : List FExpr) (hv : GoodV vals) :
    GoodStack (instStack vals tm) := by
  have key : ∀ nd ∈ instStack vals tm,
      (match nd with | .glob g => C08.Honest g | .filt _ f _ => C08.Honest f | .plain _ => True) ∧
      (match nd with | .glob g => C08.Built g | .filt _ f _ => C08.Built f | .plain _ => True) := by
    intro nd hnd
    obtain ⟨t, ht', rfl⟩ := List.mem_map.mp hnd
    cases t with
    | fixed nd =>
      have := ht.honest nd ht'
      cases nd with
      | plain n => exact ⟨trivial, trivial⟩
      | glob g => exact this
      | filt fid f n => exact this
    | rglob slot => exact getD_good vals hv slot
    | rfilt slot fid n => exact getD_good vals hv slot
  refine ⟨by simpa [instStack] using ht.ne, ?_, fun nd hnd => (key nd hnd).1, fun nd hnd => (key nd hnd).2⟩
  -- the stack's filter ids are the template's (`GoodT.wf`), whatever the values
  refine Eq.mpr (congrArg List.Nodup ?_) ht.wf
  simp only [fids, instStack, List.filterMap_map]
  apply TM.Lists.filterMap_congr
  intro t _
  cases t <;> rfl

theorem goodV_set (vals : List FExpr) (hv : GoodV vals) (h : Nat) (e : FExpr) (he : C08.Honest e ∧ C08.Built e) :
    GoodV (vals.set h e) := by
  intro x hx
  rcases List.mem_or_eq_of_mem_set hx with hx | rfl
  · exact hv x hx
  · exact he

/-- the values a history installs are honest -/
def OpGood : Op → Prop
  | .reload _ e => C08.Honest e ∧ C08.Built e
  | _ => True

def outOK (tm : List Tmpl) (pool : Nat → Meta) (s : RState) : Op → Out → Prop
  | .emit cs c, .received l => s.alive = true → l = shouldReceive (instStack s.vals tm) (pool cs) c
  | .reload _ _, .reloaded ok => ok = s.alive
  | .current, .level l => l = s.maxLevel
  | _, _ => True

theorem step_inv {tm : List Tmpl} {pool : Nat → Meta} (hpool : ∀ cs, (pool cs).level ≤ 5) (ht : GoodT tm)
    {s : RState} (hi : s.alive = true → Inv tm pool s) (hv : GoodV s.vals) (op : Op) (hop : OpGood op) :
    GoodV (step tm pool s op).1.vals ∧
    ((step tm pool s op).1.alive = true → Inv tm pool (step tm pool s op).1) ∧ outOK tm pool s op (step tm pool s op).2 := by
  cases op with
  | emit cs c =>
    simp only [step, outOK]
    by_cases hal : s.alive = true
    · obtain ⟨hrecv, hinv, hvals, -⟩ := emit_spec tm pool hpool s hal (hi hal) (good_inst tm ht _ hv) cs c
      exact ⟨by rw [hvals]; exact hv, fun _ => hinv, fun _ => hrecv⟩
    · have : s.alive = false := by simpa using hal
      simp [emit, this, hv]
  | reload h e =>
    simp only [step, outOK]
    by_cases hal : s.alive = true
    · obtain ⟨hok, -, -, -, hvals, -, hinv, -⟩ := reload_establishes tm pool s hal (hi hal).bits h e
      exact ⟨by rw [hvals]; exact goodV_set _ hv h e hop, fun _ => hinv, by simp [hok, hal]⟩
    · have hal' : s.alive = false := by simpa using hal
      obtain ⟨herr, hsame⟩ := gone_is_error tm pool s hal' h e
      rw [hsame]
      exact ⟨hv, fun x => absurd x hal, by simp [herr, hal']⟩
  | current => exact ⟨hv, hi, rfl⟩
  | dropCollector => exact ⟨hv, by simp [step], trivial⟩

/-- every output of the history is what the property demands of the state it was produced in -/
def allOK (tm : List Tmpl) (pool : Nat → Meta) : RState → List Op → Prop
  | _, [] => True
  | s, op :: ops => outOK tm pool s op (step tm pool s op).2 ∧ allOK tm pool (step tm pool s op).1 ops

/-- **C12.after_return** — for EVERY history of emissions (from any callsites, in any contexts),
reloads of any slots to any honest values, and a collector drop: every emission is received by
exactly the layers selected by the values installed by the reloads that RETURNED before it — in
particular a callsite whose interest was cached `always` or `never` under an earlier value is
judged by the new one, in both directions — `LevelFilter::current()` is the new stack's hint, and
`reload` answers Ok exactly while the collector lives -/
theorem after_return (tm : List Tmpl) (pool : Nat → Meta) (hpool : ∀ cs, (pool cs).level ≤ 5) (ht : GoodT tm)
    (vals : List FExpr) (hv : GoodV vals) (ops : List Op) (hops : ∀ op ∈ ops, OpGood op) :
    allOK tm pool (RState.init tm vals) ops := by
  have h0 : (RState.init tm vals).alive = true → Inv tm pool (RState.init tm vals) :=
    fun _ => { cache := fun _ _ h => (nomatch h), ml := rfl, bits := rfl }
  have hv0 : GoodV (RState.init tm vals).vals := hv
  generalize RState.init tm vals = s at h0 hv0
  induction ops generalizing s with
  | nil => trivial
  | cons op rest ih =>
    obtain ⟨v, a, b⟩ := step_inv hpool ht h0 hv0 op (hops op (by simp))
    exact ⟨b, ih (fun o ho => hops o (List.mem_cons_of_mem _ ho)) _ a v⟩

theorem layersOf_inst (tm : List Tmpl) (a b : List FExpr) : layersOf (instStack a tm) = layersOf (instStack b tm) := by
  simp only [layersOf, instStack, List.filterMap_map]
  apply TM.Lists.filterMap_congr
  intro t _
  cases t <;> rfl

/-- the three reads of an emission that overlaps a reload: MAX_LEVEL, the callsite's interest, and
the stack's filters (each reload::Subscriber read-locks per call, and `modify` changes ONE slot
under the write lock) — each may come from the world before or after the reload -/
def emitMixed (ml : Nat) (i : Interest) (st : Stack) (m : Meta) (c : Ctx) : List Nat :=
  if m.level ≤ ml then (emitEventI i st TState.init m c).2 else []

/-- **C12.racing_old_or_new** — for all eight combinations of "read before / after the reload" the
emission is received by exactly the layers the OLD values select or exactly the layers the NEW
values select — never a mixture -/
theorem racing_old_or_new (tm : List Tmpl) (ht : GoodT tm) (old new : List FExpr) (ho : GoodV old) (hn : GoodV new)
    (m : Meta) (hm : m.level ≤ 5) (c : Ctx)
    (ml : Nat) (hml : ml = hintRank (instStack old tm) ∨ ml = hintRank (instStack new tm))
    (i : Interest) (hi : i = stackInterest (instStack old tm) m ∨ i = stackInterest (instStack new tm) m)
    (st : Stack) (hst : st = instStack old tm ∨ st = instStack new tm) :
    emitMixed ml i st m c = shouldReceive (instStack old tm) m c ∨
    emitMixed ml i st m c = shouldReceive (instStack new tm) m c := by
  have gO := good_inst tm ht old ho
  have gN := good_inst tm ht new hn
  have gst : GoodStack st := by rcases hst with e | e <;> rw [e] <;> assumption
  have viaSt : (emitEventI i st TState.init m c).2 = shouldReceive st m c →
      (emitEventI i st TState.init m c).2 = shouldReceive (instStack old tm) m c ∨
      (emitEventI i st TState.init m c).2 = shouldReceive (instStack new tm) m c := by
    intro h
    rcases hst with e | e
    · left; rw [h, e]
    · right; rw [h, e]
  -- `never` / `always` from a world is that world's verdict; `sometimes` defers to the filters read
  have viaInterest : ∀ v : List FExpr, GoodStack (instStack v tm) → i = stackInterest (instStack v tm) m →
      (emitEventI i st TState.init m c).2 = shouldReceive (instStack v tm) m c ∨
      (emitEventI i st TState.init m c).2 = shouldReceive st m c := by
    intro v hgv hv
    obtain ⟨in1, in2⟩ := C07.interest_sound _ hgv.ne hgv.honest m
    rw [C07.emitEventI_clean st gst.wf i _ rfl, hv]
    cases hc : stackInterest (instStack v tm) m with
    | never => exact Or.inl (in1 hc c).symm
    | always =>
      left
      rw [C07.shouldReceive_all (in2 hc c).1 (in2 hc c).2]
      rcases hst with e | e <;> rw [e] <;> exact layersOf_inst tm _ _
    | sometimes => exact Or.inr rfl
  unfold emitMixed
  by_cases hl : m.level ≤ ml
  · simp only [hl, if_true]
    rcases hi with e | e
    · exact (viaInterest old gO e).elim Or.inl viaSt
    · exact (viaInterest new gN e).elim Or.inr viaSt
  · -- a level above either world's hint is rejected by that world
    simp only [hl, if_false]
    rcases hml with e | e
    · exact Or.inl (above_hint gO hm c (e ▸ hl)).symm
    · exact Or.inr (above_hint gN hm c (e ▸ hl)).symm

/-- the lock scope of `callsite::register` and the order inside the writer sections, as extracted now -/
theorem lock_discipline : TM.Gen.RegistryLocks.registerHoldsAcrossPush = true ∧
    TM.Gen.RegistryLocks.rebuildCacheOrder = ["write", "rebuild"] :=
  ⟨rfl, rfl⟩

/- A reload racing with first-hit registrations on other threads.
`Handle::modify` is, per `modify_order`, "mutate under the value's lock, release it, rebuild".  In
C04's transition system (all interleavings of any number of threads, with the lock scope of
`callsite::register` extracted from the source) these are the steps `mutate` and `rebuildCache`.
A callsite that another thread is registering for the first time while the reload runs either is
on the callsite list when the rebuild walks it, or computes its interest after the mutate — because
`register` holds the read lock from "compute" until after "push" (`lock_discipline`). -/
/-- **C12.reload_racing_registration** — after EVERY interleaving in which every reload that mutated
has also rebuilt (i.e. has returned), every cached interest — including those of callsites that were
being registered for the first time during the reload — agrees with every live collector's NEW answers -/
theorem reload_racing_registration (U : List TM.Callsite.Cs) (steps : List TM.RegRace.Step)
    (hin : ∀ st ∈ steps, C04.StepIn U st) (hclean : (C04.runCode U steps).dirty = false) :
    let s := C04.runCode U steps
    ∀ cs c, s.alive c = true →
      (s.cache cs = some .never → s.want c cs = .never) ∧ (s.cache cs = some .always → s.want c cs = .always) :=
  (C04.never_stranded U steps hin hclean).1

def exTm : List Tmpl := [.fixed (.plain 1), .rglob 0, .rfilt 1 0 2]
def exPool (cs : Nat) : Meta := { target := [], level := cs % 5 + 1, isEvent := true, fields := [] }

def run (tm : List Tmpl) (pool : Nat → Meta) : RState → List Op → RState × List Out
  | s, [] => (s, [])
  | s, op :: ops =>
    let r := step tm pool s op
    let rest := run tm pool r.1 ops
    (rest.1, r.2 :: rest.2)

example : GoodT exTm := ⟨by simp [exTm], by decide, by
  intro nd h; simp [exTm] at h; subst h; trivial⟩
example : GoodV [.level 3, .level 5] := by
  intro e he; simp at he; rcases he with rfl | rfl <;> exact ⟨trivial, trivial⟩
-- under (global INFO, layer-2 filter TRACE) a DEBUG event (cs 3) reaches nobody and is cached `never`;
-- after reloading the global filter to TRACE it reaches both layers; after reloading layer 2's filter to ERROR only layer 1
example : ((run exTm exPool (RState.init exTm [.level 3, .level 5])
    [.emit 3 0, .reload 0 (.level 5), .emit 3 0, .reload 1 (.level 1), .emit 3 0, .current]).2.map
      fun | .received l => l | .level l => [100 + l] | _ => []) = [[], [], [1, 2], [], [1], [105]] := by decide

end C12
