/-
C03, the last clause — "nothing arrives after the last handle's close notification".

For every finite program over the Span API: every call a collector receives about a span — clone,
enter, exit, record, follows-from, close — arrives while that collector's own count for the span
(creations + clones − closes it has been told about so far) is at least one; the close that takes the
count to zero is the last thing it ever hears about the span.

All four invariants of C03 rest on one analysis of `step`, `step_acts`: every operation is a sequence of
collector calls and owner-list changes (`Acts`) in which each call finds its span counted and each `exit`
finds it entered, and which adds nothing under any weighting of owners.  The invariants are then proved
per call, by induction over `Acts`: `Acts.conserves` gives the two counting invariants (`RC`, `EB`),
`Acts.ec` and `Acts.sok` the two of this file.
-/
import TracingModel.Props.C03E
import TracingModel.Lemmas.Lists

namespace C03
open TM.SpanHandle

theorem removeLast_eq (id : Nat) (l : List Nat) : removeLast id l = (l.reverse.erase id).reverse := by
  induction l with
  | nil => rfl
  | cons x rest ih => simp only [removeLast, TM.Lists.eraseLast_cons, ih, List.contains_iff_mem]

theorem count_removeLast {id : Nat} {l : List Nat} (h : id ∈ l) (x : Nat) :
    (removeLast id l).count x + (if id = x then 1 else 0) = l.count x := by
  have := List.count_pos_iff.mpr h
  rw [removeLast_eq, List.count_reverse, List.count_erase, List.count_reverse]
  by_cases e : id = x
  · subst e; simp only [beq_self_eq_true, if_true]; omega
  · simp only [beq_iff_eq, e, if_false]; omega

theorem removeLast_of_not_mem {id : Nat} {l : List Nat} (h : id ∉ l) : removeLast id l = l := by
  rw [removeLast_eq, List.erase_of_not_mem (mt List.mem_reverse.mp h), List.reverse_reverse]

/-- the collector-side view agrees with the call log -/
def EC (s : PState) : Prop := ∀ (c : Cid) (t : Tid) (id : Nat), ((s.entered c t).count id : Int) = ebal (c, id) t s.log

theorem EC.init (acc : Cid → Nat → Bool) : EC (PState.init acc) := by intro c t id; rfl

theorem ec_emit {s : PState} (h : EC s) (c : Call) (hc : ∀ r t, ne r t c = 0) : EC (emit s c) := by
  intro c' t' id'
  simp only [emit, ebal_append, hc, ← h c' t' id']; omega

theorem ec_update {s : PState} (h : EC s) {c : Cid} {t : Tid} {id : Nat} {call : Call} (l : List Nat)
    (hcall : call = .enter c id t ∨ call = .exit c id t)
    (hsame : ∀ id', (l.count id' : Int) = (s.entered c t).count id' + ne (c, id') t call) :
    EC (emit { s with entered := update2 s.entered c t l } call) := by
  intro c' t' id'
  simp only [emit, ebal_append, update2, ← h c' t' id']
  split
  · next e => obtain ⟨rfl, rfl⟩ := e; exact hsame id'
  · next e =>
    have : ne (c', id') t' call = 0 := by
      rcases hcall with rfl | rfl <;>
        exact if_neg fun ⟨e1, e2⟩ => e ⟨(Prod.mk.inj e1).1.symm, e2.symm⟩
    rw [this]; omega

theorem ec_doEnter {s : PState} (h : EC s) (r : Option Ref) (t : Tid) : EC (doEnter s r t) := by
  cases r with
  | none => exact h
  | some p =>
    refine ec_update h _ (.inl rfl) fun id' => ?_
    simp only [List.count_append, List.count_cons, List.count_nil, ne, Prod.mk.injEq, true_and, and_true, beq_iff_eq]
    split <;> simp

/-- `hpos`: the `exit` of a span that is not entered leaves the list as it is (`removeLast_of_not_mem`), while the log
still counts −1 -/
theorem ec_doExit {s : PState} (h : EC s) (r : Option Ref) (t : Tid)
    (hpos : ∀ q, r = some q → 1 ≤ ebal q t s.log) : EC (doExit s r t) := by
  cases r with
  | none => exact h
  | some p =>
    obtain ⟨c, id⟩ := p
    have hin : id ∈ s.entered c t := List.count_pos_iff.mp (by have := h c t id; have := hpos _ rfl; omega)
    refine ec_update h _ (.inr rfl) fun id' => ?_
    have := count_removeLast hin id'
    simp only [ne, Prod.mk.injEq, true_and, and_true]
    by_cases e : id = id'
    · subst e; simp only [if_true] at this ⊢; omega
    · simp only [e, if_false] at this ⊢; omega

structure Inv (s : PState) : Prop where
  rc : RC s
  eb : EB s
  ec : EC s

def about : Call → Ref
  | .new c id => (c, id)
  | .clone c id => (c, id)
  | .close c id => (c, id)
  | .enter c id _ => (c, id)
  | .exit c id _ => (c, id)
  | .record c id => (c, id)
  | .follows c id _ => (c, id)

def isNew : Call → Bool
  | .new _ _ => true
  | _ => false

/-- every call of `l`, read after the prefix `pre`, is a creation or arrives while the collector's count for its span is ≥ 1 -/
def sokFrom (pre : List Call) : List Call → Prop
  | [] => True
  | c :: rest => (isNew c = true ∨ 1 ≤ bal (about c) pre) ∧ sokFrom (pre ++ [c]) rest

def SOK (log : List Call) : Prop := sokFrom [] log

theorem sokFrom_append (pre a b : List Call) : sokFrom pre (a ++ b) ↔ sokFrom pre a ∧ sokFrom (pre ++ a) b := by
  induction a generalizing pre with
  | nil => simp [sokFrom]
  | cons c cs ih =>
    simp only [List.cons_append, sokFrom, ih, List.append_assoc, List.nil_append, and_assoc]

theorem SOK_snoc (log : List Call) (c : Call) : SOK (log ++ [c]) ↔ SOK log ∧ (isNew c = true ∨ 1 ≤ bal (about c) log) := by
  simp only [SOK, sokFrom_append, List.nil_append, sokFrom, and_true]

theorem sok_emit {s : PState} (h : SOK s.log) (c : Call) (hc : isNew c = true ∨ 1 ≤ bal (about c) s.log) : SOK (emit s c).log := by
  simp only [emit]; exact (SOK_snoc s.log c).mpr ⟨h, hc⟩

/-- inside an operation that began in `s`, with the log at `log`, the span `r` (if there is one) is counted by its
collector.  The proviso `Inv s` is inside the definition so that `step_acts` needs no hypothesis and serves `step_ec`,
which has `EB` and `EC` but not `RC`, as well as `step_sok`. -/
def Counted (s : PState) (log : List Call) (r : Option Ref) : Prop :=
  Inv s → ∀ q, r = some q → 1 ≤ bal q log

def Entered (s : PState) (log : List Call) (r : Option Ref) (t : Tid) : Prop :=
  EB s → ∀ q, r = some q → 1 ≤ ebal q t log

theorem counted_mem {s : PState} {o : Owner} (hm : o ∈ s.owners) : Counted s s.log o.ref :=
  fun hi q hq => by rw [hi.rc q]; exact own_pos_of_mem hm hq

theorem counted_doEnter {s s' : PState} {r r' : Option Ref} {t : Tid} (h : Counted s s'.log r) :
    Counted s (doEnter s' r' t).log r :=
  fun hi q hq => by rw [doEnter_bal]; exact h hi q hq

theorem counted_doExit {s s' : PState} {r r' : Option Ref} {t : Tid} (h : Counted s s'.log r) :
    Counted s (doExit s' r' t).log r :=
  fun hi q hq => by rw [doExit_bal]; exact h hi q hq

theorem entered_mem {s : PState} {o : Owner} {t : Tid} (hm : o ∈ s.owners) (hk : o.kind = .guard t) :
    Entered s s.log o.ref t :=
  fun hb q hq => by rw [hb q t]; exact gown_pos_of_mem hm hk hq

/-- `Acts s s' δ`: `s'` comes from `s` by collector calls, each made while its span is counted, an `exit` while
it is entered, and by changes to what neither `EC` nor `SOK` looks at.  Under a weighting `w` these add `δ w` to
what the collectors have been told minus what the owners weigh (`Acts.conserves`).  Two `δ`s are compared only under
`Weight w` (`cast`): a disabled owner put on the list adds `w .handle none`, which is 0 for a `Weight` only. -/
inductive Acts (s : PState) : PState → ((OwnerKind → Option Ref → Int) → Int) → Prop
  | start : Acts s s fun _ => 0
  | frame {s' s'' : PState} {δ} : Acts s s' δ → s''.log = s'.log → s''.entered = s'.entered →
      Acts s s'' fun w => δ w + osum w s'.owners - osum w s''.owners
  | call {s' : PState} {δ} (c : Call) : Acts s s' δ → (∀ r t, ne r t c = 0) →
      (isNew c = true ∨ Counted s s'.log (some (about c))) → Acts s (emit s' c) fun w => δ w + cw w c
  | enter {s' : PState} {δ} (r : Option Ref) (t : Tid) : Acts s s' δ → Counted s s'.log r →
      Acts s (doEnter s' r t) fun w => δ w + (w (.guard t) r - w .handle r)
  | exit {s' : PState} {δ} (r : Option Ref) (t : Tid) : Acts s s' δ → Counted s s'.log r → Entered s s'.log r t →
      Acts s (doExit s' r t) fun w => δ w + (w .handle r - w (.guard t) r)
  | cast {s' : PState} {δ δ'} : Acts s s' δ → (∀ w, Weight w → δ' w = δ w) → Acts s s' δ'

theorem Acts.conserves {s s' : PState} {δ} (h : Acts s s' δ) {w : OwnerKind → Option Ref → Int} (hw : Weight w) :
    lsum w s'.log - osum w s'.owners = lsum w s.log - osum w s.owners + δ w := by
  induction h with
  | start => exact (Int.add_zero _).symm
  | frame _ hl _ ih => rw [hl]; dsimp only; omega
  | call c _ _ _ ih => simp only [emit, lsum_append, lsum_one]; omega
  | enter r t _ _ ih => rw [doEnter_log, doEnter_owners, lsum_append, lsum_enterCalls hw]; dsimp only; omega
  | exit r t _ _ _ ih => rw [doExit_log, doExit_owners, lsum_append, lsum_exitCalls hw]; dsimp only; omega
  | cast _ he ih => rw [he w hw]; exact ih

/-- inside an operation the two counts are off by the chain's index: an owner taken off the list and not yet closed is still
counted, an `enter` not yet answered by its `exit` still entered -/
theorem Acts.bal_own {s s' : PState} {δ} (h : Acts s s' δ) (hr : RC s) (q : Ref) :
    bal q s'.log = own q s'.owners + δ (wRC q) := by
  have := h.conserves (weight_rc q)
  have := hr q
  rw [bal_eq, own_eq] at *; omega

theorem Acts.ebal_gown {s s' : PState} {δ} (h : Acts s s' δ) (hb : EB s) (q : Ref) (u : Tid) :
    ebal q u s'.log = gown q u s'.owners + δ (wEB q u) := by
  have := h.conserves (weight_eb q u)
  have := hb q u
  rw [ebal_eq, gown_eq] at *; omega

theorem Acts.counted {s s' : PState} {δ} {r : Option Ref} (h : Acts s s' δ) (hδ : ∀ q, r = some q → 1 ≤ δ (wRC q)) :
    Counted s s'.log r := fun hi q hq => by
  have := h.bal_own hi.rc q
  have : 0 ≤ own q s'.owners := osum_nonneg (wRC_nonneg q) _
  have := hδ q hq
  omega

theorem Acts.entered {s s' : PState} {δ} {r : Option Ref} {t : Tid} (h : Acts s s' δ)
    (hδ : ∀ q, r = some q → 1 ≤ δ (wEB q t)) : Entered s s'.log r t := fun hb q hq => by
  have := h.ebal_gown hb q t
  have := gown_nonneg q t s'.owners
  have := hδ q hq
  omega

theorem Acts.ec {s s' : PState} {δ} (h : Acts s s' δ) (hb : EB s) (hc : EC s) : EC s' := by
  induction h with
  | start => exact hc
  | frame _ hl he ih => intro c t id; rw [hl, he]; exact ih c t id
  | call c _ hne _ ih => exact ec_emit ih c hne
  | enter r t _ _ ih => exact ec_doEnter ih r t
  | exit r t _ _ he ih => exact ec_doExit ih r t (he hb)
  | cast _ _ ih => exact ih

theorem Acts.sok {s s' : PState} {δ} (h : Acts s s' δ) (hi : Inv s) (hs : SOK s.log) : SOK s'.log := by
  induction h with
  | start => exact hs
  | frame _ hl _ ih => rw [hl]; exact ih
  | call c _ _ hev ih => exact sok_emit ih c (hev.imp id fun h => h hi _ rfl)
  | enter r t _ hev ih =>
    cases r with
    | none => exact ih
    | some p => exact sok_emit ih (.enter p.1 p.2 t) (.inr (hev hi p rfl))
  | exit r t _ hev _ ih =>
    cases r with
    | none => exact ih
    | some p => exact sok_emit ih (.exit p.1 p.2 t) (.inr (hev hi p rfl))
  | cast _ _ ih => exact ih

/-- a chain that adds nothing keeps the two counting invariants: they are conservation under the weightings `wRC`, `wEB` -/
theorem Acts.rc {s s' : PState} (h : Acts s s' fun _ => 0) (hr : RC s) : RC s' :=
  fun q => (h.bal_own hr q).trans (Int.add_zero _)

theorem Acts.eb {s s' : PState} (h : Acts s s' fun _ => 0) (hb : EB s) : EB s' :=
  fun q u => (h.ebal_gown hb q u).trans (Int.add_zero _)

theorem Acts.inv {s s' : PState} (h : Acts s s' fun _ => 0) (hi : Inv s) : Inv s' :=
  ⟨h.rc hi.rc, h.eb hi.eb, h.ec hi.eb hi.ec⟩

theorem Acts.owners {s s' : PState} {δ} (h : Acts s s' δ) (l : List Owner) :
    Acts s { s' with owners := l } fun w => δ w + osum w s'.owners - osum w l :=
  .frame h rfl rfl

theorem Acts.close {s s' : PState} {δ} {r : Option Ref} (h : Acts s s' δ) (hc : Counted s s'.log r) :
    Acts s (doClose s' r) fun w => δ w - w .handle r := by
  cases r with
  | none => exact .cast h fun w hw => by simp only [hw.none, Int.sub_zero]
  | some p => exact .call (.close p.1 p.2) h (fun _ _ => rfl) (.inr hc)

theorem acts_take {s s' : PState} {δ} {k : Key} {l : List Owner} {f : Owner → List Owner → PState} (h' : Acts s s' δ)
    (h : ∀ o rest, take k l = some (o, rest) → Acts s (f o rest) δ) :
    Acts s (match take k l with | some (o, rest) => f o rest | none => s') δ := by
  split
  · next o rest ht => exact h o rest ht
  · exact h'

theorem acts_find {s s' : PState} {δ} {k : Key} {l : List Owner} {f : Owner → PState} (h' : Acts s s' δ)
    (h : ∀ o, find k l = some o → Acts s (f o) δ) : Acts s (match find k l with | some o => f o | none => s') δ := by
  split
  · next o hf => exact h o hf
  · exact h'

theorem acts_if {s s' s'' : PState} {δ} {p : Prop} [Decidable p] (h' : Acts s s' δ) (h : p → Acts s s'' δ) :
    Acts s (if p then s'' else s') δ := by
  split
  · next hp => exact h hp
  · exact h'

theorem acts_guard {s s' : PState} {δ} {o : Owner} {f : Tid → PState} (h' : Acts s s' δ)
    (h : ∀ t, o.kind = .guard t → Acts s (f t) δ) : Acts s (match o.kind with | .guard t => f t | _ => s') δ := by
  split
  · next t hk => exact h t hk
  · exact h'

/-- `hδ`: the collectors have been told of no fewer owners than are on the list (`Acts.bal_own`), so the handle found there is
counted -/
theorem Acts.drop {s s' : PState} {δ} {k : Key} (h : Acts s s' δ) (hδ : ∀ q, 0 ≤ δ (wRC q)) :
    Acts s (dropHandle s' k) δ := by
  unfold dropHandle
  refine acts_take h fun o rest ht => acts_if h fun hk => ?_
  refine .cast (.close (h.owners _) fun hi q hq => ?_) fun w hw => ?_
  · have := own_pos_of_mem (mem_of_take ht) hq
    have := h.bal_own hi.rc q
    have := hδ q
    show 1 ≤ bal q s'.log
    omega
  · simp only [take_osum ht, hk]; omega

theorem current_guarded {s : PState} (hb : EB s) (hc : EC s) {t : Tid} {c : Cid} {id : Nat}
    (h : currentOf s t = some (c, id)) : 1 ≤ gown (c, id) t s.owners := by
  simp only [currentOf] at h
  cases hd : s.dflt t with
  | none => simp [hd] at h
  | some c' =>
    simp only [hd, Option.map_eq_some_iff] at h
    obtain ⟨x, hx, he⟩ := h
    cases he
    have h1 : 1 ≤ (s.entered c t).count id := List.count_pos_iff.mpr (List.mem_of_getLast? hx)
    have h2 := hc c t id
    have h3 := hb (c, id) t
    omega

theorem Acts.current {s s' : PState} {δ} {t : Tid} (h : Acts s s' δ) (hδ : ∀ w, Weight w → δ w = 0) :
    Acts s (currentRef s' t).1 fun w => δ w + w .handle (currentRef s' t).2 := by
  unfold currentRef
  split
  · next c id hcur =>
    refine .cast (.call (.clone c id) h (fun _ _ => rfl) (.inr fun hi q hq => ?_)) fun w _ => rfl
    -- a guard is an owner, and the collector counts every owner
    have hi' : Inv s' := (h.cast fun w hw => (hδ w hw).symm).inv hi
    have h1 := current_guarded hi'.eb hi'.ec hcur
    have h2 : gown (c, id) t s'.owners ≤ own (c, id) s'.owners := osum_le (wEB_le_wRC (c, id) t) s'.owners
    have h3 := hi'.rc (c, id)
    cases hq
    show 1 ≤ bal (c, id) s'.log
    omega
  · exact .cast h fun w hw => by simp only [hw.none, Int.add_zero]

/-- Every operation of the Span API is a sequence of backed calls that adds nothing under any weighting.  What backs
the calls: the owner the operation acts on is among the owners when it begins (`counted_mem`, `entered_mem`),
`enter` and `exit` do not touch the count, and an `exit` that follows the operation's own `enter` finds the span
entered: the chain's index says so (`Acts.entered`).  Why nothing is added: the owner taken out of the list (`take_osum`)
comes back under another kind or not at all, and the calls say just that. -/
theorem step_acts (s : PState) (op : Op) : Acts s (step s op) fun _ => 0 := by
  cases op with
  | newSpan t k lvl =>
    dsimp only [step]
    split
    · exact .cast (.owners .start _) fun w hw => by simp only [osum_cons, hw.none]; omega
    · split
      · exact .cast (.call _ (.frame .start rfl rfl) (fun _ _ => rfl) (.inl rfl)) fun w _ => by
          simp only [cw, osum_cons]; omega
      · exact .cast (.owners .start _) fun w hw => by simp only [osum_cons, hw.none]; omega
  | clone k k2 =>
    refine acts_find .start fun o hf => ?_
    split
    · next hr =>
      exact .cast (.call _ (.owners .start _) (fun _ _ => rfl) (.inr (hr ▸ counted_mem (mem_of_find hf)))) fun w _ => by
        simp only [cw, osum_cons]; omega
    · exact .cast (.owners .start _) fun w hw => by simp only [osum_cons, hw.none]; omega
    · exact .start
  | drop k => exact .drop .start fun _ => Int.le_refl 0
  | enter t k g =>
    refine acts_take .start fun o rest ht => acts_if .start fun hk => ?_
    exact .cast (.enter _ _ (.owners .start _) (counted_mem (mem_of_take ht))) fun w _ => by
      simp only [osum_cons, take_osum ht, hk]; omega
  | exitTo g k2 =>
    refine acts_take .start fun o rest ht => acts_guard .start fun t hk => ?_
    exact .cast (.exit _ _ (.owners .start _) (counted_mem (mem_of_take ht)) (entered_mem (mem_of_take ht) hk))
      fun w _ => by simp only [osum_cons, take_osum ht, hk]; omega
  | dropGuard g =>
    refine acts_take .start fun o rest ht => acts_guard .start fun t hk => ?_
    have hc := counted_mem (mem_of_take ht)
    exact .cast (.close (.exit _ _ (.owners .start _) hc (entered_mem (mem_of_take ht) hk)) (counted_doExit hc))
      fun w _ => by simp only [take_osum ht, hk]; omega
  | inScope t k | poll t k =>
    refine acts_find .start fun o hf => acts_if .start fun _ => ?_
    have hc := counted_mem (mem_of_find hf)
    have he := Acts.enter o.ref t .start hc
    exact .cast (.exit _ _ he (counted_doEnter hc) (he.entered fun q hq => by simp [wEB, hq])) fun w _ => by omega
  | record k =>
    refine acts_find .start fun o hf => ?_
    split
    · next hr =>
      exact .cast (.call _ .start (fun _ _ => rfl) (.inr (hr ▸ counted_mem (mem_of_find hf)))) fun w _ => by
        simp only [cw]; omega
    · exact .start
  | follows k k2 | followsGuard k k2 =>
    dsimp only [step]
    split
    · next o o2 hf hf2 =>
      split
      · next hr _ _ =>
        exact .cast (.call _ .start (fun _ _ => rfl) (.inr (hr ▸ counted_mem (mem_of_find hf)))) fun w _ => by
          simp only [cw]; omega
      · exact .start
    · exact .start
  | current t k =>
    exact .cast (.owners (.current .start fun _ _ => rfl) _) fun w _ => by simp only [osum_cons]; omega
  | orCurrent t k k2 =>
    refine acts_take .start fun o rest ht => acts_if .start fun hk => ?_
    split
    · next r hr => exact .cast (.owners .start _) fun w _ => by simp only [osum_cons, take_osum ht, hk, hr]; omega
    · next hr =>
      -- the disabled handle weighed nothing: with it off the list the chain still stands at 0
      have hcur := Acts.current (s := s) (t := t) (.owners .start rest) fun w hw => by
        simp only [take_osum ht, hr, hw.none]; omega
      exact .cast (.owners hcur _) fun w hw => by simp only [osum_cons, take_osum ht, hr, hw.none]; omega
  | instrument k f =>
    refine acts_take .start fun o rest ht => acts_if .start fun hk => ?_
    exact .cast (.owners .start _) fun w hw => by simp only [osum_cons, take_osum ht, hk, hw.future]; omega
  | dropFuture t f =>
    refine acts_take .start fun o rest ht => acts_if .start fun hk => ?_
    have hc := counted_mem (mem_of_take ht)
    have he := Acts.enter o.ref t (.owners .start rest) hc
    exact .cast (.close (.exit _ _ he (counted_doEnter hc) (he.entered fun q hq => by simp [wEB, hq, take_osum ht, hk]))
      (counted_doExit (counted_doEnter hc))) fun w hw => by
      simp only [take_osum ht, hk, hw.future]; omega
  | dropFutureHolding t f k =>
    refine acts_take .start fun o rest ht => acts_if .start fun hk => ?_
    -- with the future out of the list the collectors count its span once more than the owners do, and it is entered
    have hd := Acts.drop (k := k) (.enter o.ref t (.owners .start rest) (counted_mem (mem_of_take ht))) fun q => by
      simp only [take_osum ht, wRC]; omega
    have hc : Counted s _ o.ref := hd.counted fun q hq => by simp only [take_osum ht, wRC, hq, if_true]; omega
    exact .cast (.close (.exit _ _ hd hc (hd.entered fun q hq => by simp [wEB, hq, take_osum ht, hk])) (counted_doExit hc))
      fun w hw => by simp only [take_osum ht, hk, hw.future]; omega
  | intoInner f =>
    refine acts_take .start fun o rest ht => acts_if .start fun hk => ?_
    exact .cast (.close (.owners .start _) (counted_mem (mem_of_take ht))) fun w hw => by
      simp only [take_osum ht, hk, hw.future]; omega
  | setDefault t c =>
    dsimp only [step]
    exact .cast (.frame .start rfl rfl) fun w _ => by dsimp only; omega

theorem step_rc (s : PState) (op : Op) (h : RC s) : RC (step s op) := (step_acts s op).rc h

theorem step_eb (s : PState) (op : Op) (h : EB s) : EB (step s op) := (step_acts s op).eb h

theorem step_ec (s : PState) (op : Op) (hb : EB s) (h : EC s) : EC (step s op) :=
  (step_acts s op).ec hb h

theorem step_sok (s : PState) (op : Op) (hrc : RC s) (hb : EB s) (hc : EC s) (h : SOK s.log) : SOK (step s op).log :=
  (step_acts s op).sok ⟨hrc, hb, hc⟩ h

theorem Inv.init (acc : Cid → Nat → Bool) : Inv (PState.init acc) := ⟨RC.init acc, EB.init acc, EC.init acc⟩

theorem step_inv {s : PState} (hi : Inv s) (op : Op) : Inv (step s op) := (step_acts s op).inv hi

theorem run_inv {s : PState} (hi : Inv s) (hs : SOK s.log) (ops : List Op) : Inv (run s ops) ∧ SOK (run s ops).log :=
  List.foldlRecOn (motive := fun s => Inv s ∧ SOK s.log) ops step ⟨hi, hs⟩
    fun s ⟨hi, hs⟩ op _ => ⟨step_inv hi op, (step_acts s op).sok hi hs⟩

/-- **C03.refcount** — for EVERY finite program over the Span API, run from the empty state under
any collectors, at every point and for every span: the number of creations plus clone
notifications minus close notifications its collector has seen equals the number of live owners
(handles, entered guards, instrumented futures) — hence one creation, one clone per additional
handle, one close per dropped handle, and the balance is zero exactly when all are gone. -/
theorem refcount (acc : Cid → Nat → Bool) (ops : List Op) (r : Ref) :
    bal r (run (PState.init acc) ops).log = own r (run (PState.init acc) ops).owners :=
  (run_inv (Inv.init acc) trivial ops).1.rc r

/-- once every handle, entered guard and instrumented future of a span is gone, its collector has been told to close it
exactly as often as it was told of a creation or a clone: one `try_close` per dropped handle, none missing, none extra -/
theorem closes_match_when_gone (acc : Cid → Nat → Bool) (ops : List Op) (r : Ref)
    (h : own r (run (PState.init acc) ops).owners = 0) :
    bal r (run (PState.init acc) ops).log = 0 := by
  rw [refcount]; exact h

/-- **C03.enter_exit_balance** — for EVERY finite program, every span and every thread: enters minus exits seen by the
span's collector on that thread = the number of entered guards of that span living on that thread -/
theorem enter_exit_balance (acc : Cid → Nat → Bool) (ops : List Op) (r : Ref) (t : Tid) :
    ebal r t (run (PState.init acc) ops).log = gown r t (run (PState.init acc) ops).owners :=
  (run_inv (Inv.init acc) trivial ops).1.eb r t

/-- **C03.no_exit_without_enter** — at every point of every program the collector has seen at least as many enters as exits
of a span on a thread -/
theorem no_exit_without_enter (acc : Cid → Nat → Bool) (ops : List Op) (r : Ref) (t : Tid) :
    0 ≤ ebal r t (run (PState.init acc) ops).log := by
  rw [enter_exit_balance]; exact gown_nonneg r t _

/-- **C03.enters_matched_when_no_guard** — and exactly as many once no entered guard of that span is left on that thread -/
theorem enters_matched_when_no_guard (acc : Cid → Nat → Bool) (ops : List Op) (r : Ref) (t : Tid)
    (h : gown r t (run (PState.init acc) ops).owners = 0) : ebal r t (run (PState.init acc) ops).log = 0 := by
  rw [enter_exit_balance]; exact h

/-- **C03.silent_after_last_close** — for EVERY finite program: every call a collector receives about a span other than its
creation arrives while the collector's own count for that span (creations + clones − closes so far) is at least one — nothing
arrives after the close that takes it to zero -/
theorem silent_after_last_close (acc : Cid → Nat → Bool) (ops : List Op) : SOK (run (PState.init acc) ops).log :=
  (run_inv (Inv.init acc) trivial ops).2

/-- the same, read off a position of the final log -/
theorem nothing_after_zero (acc : Cid → Nat → Bool) (ops : List Op) (p q : List Call) (c : Call)
    (h : (run (PState.init acc) ops).log = p ++ c :: q) : isNew c = true ∨ 1 ≤ bal (about c) p := by
  have := silent_after_last_close acc ops
  rw [h] at this
  exact ((sokFrom_append [] p (c :: q)).mp this).2.1

end C03
